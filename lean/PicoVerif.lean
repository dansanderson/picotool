import PicoVerif.Base.Bytes
import PicoVerif.Gen.Lexer
import PicoVerif.Gen.Parser
import PicoVerif.Gen.Lua
import PicoVerif.Gen.Game
import PicoVerif.Model.P8scii
import PicoVerif.Props.C01
import PicoVerif.Props.C02
import PicoVerif.Props.C03
import PicoVerif.Props.C04
import PicoVerif.Props.C05
import PicoVerif.Props.C06
import PicoVerif.Props.C07
import PicoVerif.Props.C08
import PicoVerif.Props.C09
import PicoVerif.Props.C10
import PicoVerif.Props.C11
import PicoVerif.Props.C12
import PicoVerif.Props.C13
import PicoVerif.Props.C14
import PicoVerif.Props.C15
import PicoVerif.Props.C16
import PicoVerif.Props.C17
import PicoVerif.Props.C18
import PicoVerif.Props.C19
import PicoVerif.Props.C20
