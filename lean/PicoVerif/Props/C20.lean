import PicoVerif.Model.Include
import PicoVerif.Lemmas.C20
/-! C20 — #include splices exactly the named file or cart tab at the include line.
File reading and cart loading are parameters of the model (`FS`); the recogniser, tab selection and splice are proved. -/
namespace Pico.C20
open Pico.Inc Pico.Path

/-- **C20.plain_lines_unchanged**: a line that is not an include line is yielded unchanged, with no file access. -/
theorem plain_lines_unchanged (fs : FS) (root dir : P) (line : Bytes) (h : matchInclude line = none) :
    includeLine fs root dir line = (.ok [line], []) := by
  simp [includeLine, h]

/-- **C20.splice**: the loaded code is the cart's lines with each include line replaced, in place, by what that
line alone yields; every other line is unchanged and in place. -/
theorem splice (fs : FS) (root dir : P) (lines out : List Bytes)
    (h : (processIncludes fs root dir lines).1 = .ok out) :
    ∃ parts : List (List Bytes), parts.length = lines.length ∧ out = parts.flatten ∧
      ∀ i (hi : i < lines.length), (includeLine fs root dir lines[i]).1 = .ok (parts.getD i []) := by
  induction lines generalizing out with
  | nil => exact ⟨[], rfl, by simpa [processIncludes] using h.symm, fun i hi => nomatch hi⟩
  | cons l rest ih =>
    obtain ⟨ls, ls2, h1, h2, rfl⟩ := processIncludes_cons_ok.1 h
    obtain ⟨parts, hlen, rfl, hp⟩ := ih ls2 h2
    refine ⟨ls :: parts, by simp [hlen], by simp, fun i hi => ?_⟩
    cases i with
    | zero => simpa using h1
    | succ j => simpa using hp j (by simpa using hi)

/-- **C20.tab_none**: without a selector every line of the included cart is kept, the `-->8` lines included. -/
theorem tab_none (ls : List Bytes) (cur : Nat) : linesForTab none ls cur = ls := by
  induction ls generalizing cur with
  | nil => rfl
  | cons l rest ih => rw [linesForTab]; split <;> simp [ih]

/-- **C20.tab_some**: with selector `n` exactly the lines of the n-th editor tab are kept (none if there is no such tab). -/
theorem tab_some (ls : List Bytes) (n : Nat) : linesForTab (some n) ls 0 = (splitTabs ls []).getD n [] := by
  simpa using linesForTab_from ls 0 [] n

/-- **C20.lines_stay_lines**: every line spliced in for an include line ends with a line feed, so the line of the
including cart that follows stays a line of its own. -/
theorem lines_stay_lines (fs : FS) (root dir : P) (line : Bytes) (m : IncMatch) (ls : List Bytes)
    (hm : matchInclude line = some m) (h : (includeLine fs root dir line).1 = .ok ls) :
    ∀ l ∈ ls, l.getLast? = some 10 := by
  -- every successful branch of `includeLine` on an include line maps `withNewline` over what it read
  have : ∃ src : List Bytes, ls = src.map withNewline := by
    simp only [includeLine, hm] at h
    split at h
    · cases h
    split at h
    · cases h
    split at h
    · exact ⟨_, (Except.ok.inj h).symm⟩
    split at h
    · cases h
    · exact ⟨_, (Except.ok.inj h).symm⟩
  obtain ⟨src, rfl⟩ := this
  intro l hl
  obtain ⟨x, _, rfl⟩ := List.mem_map.1 hl
  exact withNewline_last x

/-- **C20.missing_fails**: an include line whose target is not a file fails the load. -/
theorem missing_fails (fs : FS) (root dir : P) (line : Bytes) (m : IncMatch) (hm : matchInclude line = some m)
    (hf : fs.isFile (normpath (join dir (bytesToPath (m.path ++ m.ext)))) = false) :
    ∃ e, (includeLine fs root dir line).1 = .error e := by
  simp only [includeLine, hm]
  split
  · exact ⟨_, rfl⟩
  · exact ⟨.notFound, by simp [hf]⟩

/-- **C20.error_propagates**: if any line fails, loading fails (nothing is silently skipped). -/
theorem error_propagates (fs : FS) (root dir : P) (pre post : List Bytes) (line : Bytes) (e : Err)
    (hpre : ∃ o, (processIncludes fs root dir pre).1 = .ok o)
    (h : (includeLine fs root dir line).1 = .error e) :
    (processIncludes fs root dir (pre ++ line :: post)).1 = .error e := by
  induction pre with
  | nil => rw [List.nil_append, processIncludes_cons_fst, h]; rfl
  | cons l rest ih =>
    obtain ⟨o, ho⟩ := hpre
    obtain ⟨ls, ls2, h1, h2, -⟩ := processIncludes_cons_ok.1 ho
    rw [List.cons_append, processIncludes_cons_fst, h1, ih ⟨ls2, h2⟩]
    rfl

/-- **C20.no_nested**: what is spliced for a cart target is the cart's own code lines selected by tab — include lines
inside it are not expanded (they are ordinary lines of `cartCode`). -/
theorem no_nested (fs : FS) (root dir : P) (line : Bytes) (m : IncMatch) (code : List Bytes)
    (hm : matchInclude line = some m) (hext : m.ext ≠ ".lua".toUTF8.toList)
    (hin : isWithin (normpath (join dir (bytesToPath (m.path ++ m.ext)))) root = true)
    (hf : fs.isFile (normpath (join dir (bytesToPath (m.path ++ m.ext)))) = true)
    (hc : fs.cartCode (normpath (join dir (bytesToPath (m.path ++ m.ext)))) = .ok code) :
    (includeLine fs root dir line).1 = .ok ((linesForTab m.tab code 0).map withNewline) := by
  simp only [includeLine, hm, hin, hf, Bool.not_true, Bool.false_eq_true, if_false, if_neg hext, hc]

example : matchInclude "  #include lib/a.p8.png:2 -- x\n".toUTF8.toList =
    some { path := "lib/a".toUTF8.toList, ext := ".p8.png".toUTF8.toList, tab := some 2 } := by decide +kernel
example : matchInclude "#includefoo.lua\n".toUTF8.toList = none := by decide +kernel

end Pico.C20
