import PicoVerif.Model.P8File
import PicoVerif.Lemmas.C03
/-! C03 — `.p8` write/read round trip preserves the whole cart. -/
namespace Pico.C03
open Pico.Sections Pico.P8File Pico.P8scii

def tbl : Table := Gen.p8scii

/-- the `readline()` lines of the `__lua__` section body, as written -/
def luaLines (code : Bytes) : List (List Nat) := splitLinesU (luaText tbl code)

/-- a cart the `.p8` format can hold: region sizes of the PICO-8 memory map, and no code line that itself
reads as a `__section__` header (outside the format; stated as in the property) -/
structure WFCart (c : Cart) : Prop where
  gfx : c.gfx.length = 0x2000
  gff : c.gff.length = 0x100
  map : c.map.length = 0x1000
  sfx : c.sfx.length = 0x1100
  music : c.music.length = 0x100
  label : ∀ l, c.label = some l → l.length = 0x2000
  nosec : ∀ line ∈ luaLines c.code, sectionName line = none

/-- facts about the regenerated tables the proof rests on -/
theorem tables_ok :
    Gen.hexLineLenGfx = 64 ∧ Gen.hexLineLenGff = 128 ∧ Gen.hexLineLenMap = 128 ∧
    Gen.emptyGfxLen = 0x2000 ∧ Gen.emptyGffLen = 0x100 ∧ Gen.emptyMapLen = 0x1000 ∧
    Gen.emptySfx.length = 0x1100 ∧ Gen.emptyMusic.length = 0x100 ∧
    Gen.headerTitle = "pico-8 cartridge // http://www.pico-8.com\n".toUTF8.toList := by
  decide +kernel

/-- ASCII text (hex digits, space, LF, letters, `_`, `/`, `.`, `:`, `-`) is spelled by itself in the
P8SCII table, and LF is spelled only by byte 10 — so hex sections pass through the Unicode layer unchanged
and line boundaries of the Lua text are exactly the LF bytes of the code. -/
def asciiIdentityB : Bool :=
  (([10] ++ (List.range 95).map (· + 32)).all fun c => P8scii.spelling tbl c == [c]) &&
  ((List.range 256).all fun i => i == 10 || !(P8scii.spelling tbl i).contains 10)
theorem ascii_identity : asciiIdentityB = true := by
  have row := fun i hi => Bool.and_eq_true _ _ ▸
    show C03L.asciiRow i (spelling Gen.p8scii i) = true from C03L.ascii_rows i hi
  simp only [asciiIdentityB, tbl, Bool.and_eq_true, List.all_eq_true, List.mem_append, List.mem_singleton,
    List.mem_map, List.mem_range]
  refine ⟨?_, fun i hi => (row i hi).2⟩
  rintro c (rfl | ⟨k, hk, rfl⟩)
  · simpa using (row 10 (by omega)).1
  · simpa [show k + 32 < 127 by omega] using (row (k + 32) (by omega)).1

/-- **C03.sections_roundtrip**: each section's text decodes to the section's bytes. -/
theorem gfx_rt (m : Bytes) (h : m.length = 0x2000) : gfxFromLines (gfxToLines m) = .ok m :=
  gfxFromLines_gfxToLines m h
theorem hexrows_rt (m : Bytes) : hexFromLines (hexToLines 128 m) = .ok m :=
  hexFromLines_hexToLines 128 (by decide) m
theorem sfx_rt (m : Bytes) (h : m.length = 0x1100) :
    ∃ ls, sfxToLines m = some ls ∧ sfxFromLines ls = .ok m :=
  ⟨_, sfxToLines_eq m h, sfxFromLines_enc m h⟩
theorem music_rt (m : Bytes) (h : m.length % 4 = 0) :
    ∃ ls, musicToLines m = some ls ∧ musicFromLines ls = .ok (musicNorm m) :=
  let ⟨ls, h1, h2, _⟩ := musicFromLines_musicToLines m h
  ⟨ls, h1, h2⟩

/-- **C03.readline_concat**: splitting at line ends and re-joining is the identity. -/
theorem readline_concat (s : List Nat) : (splitLinesU s).flatten = s := by
  have := splitLinesAux_flatten (· == 10) s []
  simpa [splitLinesU] using this

/-- **C03.roundtrip**: writing any well-formed cart and reading the file back yields the same cart
(final newline supplied, the one unrepresentable music bit cleared). -/
theorem roundtrip (c : Cart) (h : WFCart c) :
    ∃ f, writeP8 tbl c = some f ∧ readP8 tbl f = .ok (normCart c) :=
  C03L.roundtrip_core c h.gfx h.sfx (by rw [h.music]) h.label h.nosec

/-- **C03.rewrite_identical**: re-writing the re-read cart produces an identical file. -/
theorem rewrite_identical (c : Cart) (h : WFCart c) : writeP8 tbl (normCart c) = writeP8 tbl c :=
  (fun _ => C03L.write_norm c) h  -- holds of every cart: `h` is not needed

/-- the normalised cart is again well-formed (so the cycle can be repeated) -/
theorem norm_wf (c : Cart) (h : WFCart c) : WFCart (normCart c) :=
  have lines : luaLines (normCart c).code = luaLines c.code := congrArg splitLinesU (C03L.luaText_norm c.code)
  ⟨h.gfx, h.gff, h.map, h.sfx, (musicNorm_length c.music).trans h.music, h.label, lines ▸ h.nosec⟩

end Pico.C03
