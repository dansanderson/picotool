import PicoVerif.Model.PicoGrammar
import PicoVerif.Lemmas.PegCover
import PicoVerif.Lemmas.PegFence
import PicoVerif.Lemmas.PegFuel
/-! C08 — the parser consumes its input token by token and builds the tree it denotes.

The recursive-descent parser is modelled as grammar *data* (`Gram.gram`, a transcription of parser.py checked by
the correspondence) run by one generic interpreter (`Peg.run`). The theorems below are proved once for EVERY
grammar and every token array, then read at picotool's grammar.  Not claimed as a theorem: that every program of
the dialect is accepted to its last token (parser completeness) — that part is correspondence-tested. -/
namespace Pico.C08
open Pico.Peg Pico.Lex

/-- the parse of a whole token array with picotool's grammar -/
def parse (toks : Array Tok) (fuel : Nat) : Res := run Gram.gram toks fuel (.nt Gram.nChunk) { pos := 0, maxPos := none }

/-- the regenerated operator tables are the ones the grammar transcription was written against -/
theorem operator_tables :
    Gen.binopPats.map (·.2) = ["&", "|", "^^", "<<", ">>", ">>>", "<<>", ">><", "\\", "<", ">", "<=", ">=", "~=", "!=", "==", "..",
      "+", "-", "*", "/", "%", "^", "and", "or"].map (·.toUTF8.toList) ∧
    Gen.unopPats.map (·.2) = ["-", "#", "~", "@", "%", "$", "not"].map (·.toUTF8.toList) := by decide +kernel

/-! ### the grammar transcription against the syntax tree of parser.py

`Gen.parserCensus` / `Gen.parserClassCensus` are regenerated on every run from the *syntax tree* of parser.py: for every parser
method the token literals (`lexer.TokSymbol(b'+=')`, …) and token classes (`lexer.TokName`, …) it mentions. The grammar data
`Gram.gram` is a hand transcription; the theorem below pins it to that census: per method (group), the set of literals and the set
of classes are exactly those of the corresponding nonterminal(s) of the transcription (operators come from the regenerated
`BINOP_PATS` / `UNOP_PATS` tables and are left out on the grammar side). An alternative added to, removed from or re-spelled in
a parser method breaks this obligation whether or not any generated program exercises it. -/

def kindName : Kind → String
  | .keyword => "keyword" | .symbol => "symbol" | .name => "name" | .number => "number" | .string => "string"
  | .label => "label" | .space => "space" | .newline => "newline" | .comment => "comment"

/-- every pattern a grammar expression mentions, look-behind and look-ahead included -/
def allPats : G → List Pat
  | .eps => [] | .tok p => [p]
  | .seq a b => allPats a ++ allPats b | .alt a b => allPats a ++ allPats b
  | .star g => allPats g | .nt _ => [] | .hard g => allPats g | .node _ g => allPats g
  | .chain f s => allPats f ++ allPats s | .fence g => allPats g
  | .prevTokIs p => [p] | .notAhead g => allPats g | .filterTop _ g => allPats g

def gramLits (ns : List Nat) : List (String × List UInt8) :=
  (ns.flatMap fun n => allPats (Gram.gram n)).filterMap fun p =>
    match p with
    | .exact k d => if (Gen.binopPats ++ Gen.unopPats).contains (kindName k, d) && (ns.contains Gram.nExp || ns.contains Gram.nExpTerm)
                    then none else some (kindName k, d)
    | .kind _ => none

def gramKinds (ns : List Nat) : List String :=
  (ns.flatMap fun n => allPats (Gram.gram n)).filterMap fun p =>
    match p with
    | .kind k => some (kindName k)
    | .exact _ _ => none

def srcLits (ms : List String) : List (String × List UInt8) :=
  ms.flatMap fun m => (Gen.parserCensus.filter (·.1 == m)).flatMap (·.2)

def srcKinds (ms : List String) : List String :=
  (ms.flatMap fun m => (Gen.parserClassCensus.filter (·.1 == m)).flatMap (·.2)).filter
    fun k => !(["space", "newline", "comment"].contains k)

def sameSet {α} [BEq α] (a b : List α) : Bool := a.all b.contains && b.all a.contains

/-- parser methods and the nonterminals of the transcription they correspond to -/
def methodMap : List (List String × List Nat) := [
  (["_chunk"], [Gram.nChunk]), (["_stat"], [Gram.nStat]), (["_laststat"], [Gram.nLastStat]), (["_funcname"], [Gram.nFuncName]),
  (["_varlist"], [Gram.nVarList]), (["_var"], [Gram.nVar]), (["_namelist"], [Gram.nNameList]), (["_explist"], [Gram.nExpList]),
  (["_exp", "_exp_binop"], [Gram.nExp]), (["_exp_term"], [Gram.nExpTerm]), (["_prefixexp", "_prefixexp_recur"], [Gram.nPrefixExp]),
  (["_functioncall"], [Gram.nFunctionCall]), (["_args"], [Gram.nArgs]), (["_function"], [Gram.nFunction]),
  (["_funcbody"], [Gram.nFuncBody]), (["_tableconstructor"], [Gram.nTableCons]), (["_field"], [Gram.nField])]

/-- **C08.census_matches_grammar**: per parser method, the token literals and token classes that parser.py's syntax tree mentions
are exactly those of the grammar transcription; and no method with token literals is left out of the map. -/
theorem census_matches_grammar :
    methodMap.all (fun (ms, ns) => sameSet (srcLits ms) (gramLits ns) && sameSet (srcKinds ms) (gramKinds ns)) = true ∧
    (Gen.parserCensus.all fun (m, ls) => ls.isEmpty || methodMap.any fun (ms, _) => ms.contains m) = true := by
  decide +kernel

/-- **C08.cover** (every grammar): a successful run returns trees whose leaves, read in order, are exactly the
significant tokens of the consumed range — no token skipped, none used twice, operands and operators in source order. -/
theorem cover (gram : Nat → G) (toks : Array Tok) (fuel : Nat) (g : G) (st st' : PSt) (ts : List Tree)
    (h : run gram toks fuel g st = .ok (some (ts, st'))) :
    st.pos ≤ st'.pos ∧ leavesL ts = sigIdx toks st.pos st'.pos :=
  (Parses.of_run h).cover

/-- **C08.pico_cover**: the tree picotool's parser builds contains every significant token up to where it
stopped, exactly once and in order. -/
theorem pico_cover (toks : Array Tok) (fuel : Nat) (ts : List Tree) (st' : PSt)
    (h : parse toks fuel = .ok (some (ts, st'))) : leavesL ts = sigIdx toks 0 st'.pos :=
  (cover Gram.gram toks fuel _ _ _ _ h).2

/-- **C08.fence_restored** (every grammar): whatever is parsed — nested short-ifs included — leaves the short-if
limit exactly as it found it, and every token taken while a limit is in force lies before it. -/
theorem fence_restored (gram : Nat → G) (toks : Array Tok) (fuel : Nat) (g : G) (st st' : PSt) (ts : List Tree)
    (h : run gram toks fuel g st = .ok (some (ts, st'))) :
    st'.maxPos = st.maxPos ∧ ∀ b, st.maxPos = some b → ∀ i ∈ leavesL ts, i < b :=
  (Parses.of_run h).fenceInv

/-- **C08.shortif_extent** (every grammar, every invocation, any nesting): the body of a short-form `if (cond) ...`
— the part parsed under the fence, including its `else` part — consists only of tokens before the first newline
token that follows the condition. -/
theorem shortif_extent (gram : Nat → G) (toks : Array Tok) (fuel : Nat) (g : G) (st st' : PSt) (ts : List Tree)
    (h : run gram toks (fuel + 1) (.fence g) st = .ok (some (ts, st'))) :
    ∀ i ∈ leavesL ts, i < nextNewline toks st.pos :=
  (Parses.of_run h).fence_before_newline

/-- **C08.fuel_independent** (every grammar): the interpreter's fuel is not part of the answer. Every error of an inner run is
passed on unchanged, so a result that is not the fuel error was computed without any inner run reaching the limit, and every
larger fuel gives the same result. (The harness never sees the fuel error from the model at the fuel it uses; this theorem
says that the answers it does see are the answers for every larger fuel, too.) -/
theorem fuel_independent (gram : Nat → G) (toks : Array Tok) (f f' : Nat) (h : f ≤ f') (g : G) (st : PSt)
    (hne : run gram toks f g st ≠ .error .fuel) : run gram toks f' g st = run gram toks f g st := by
  induction h with
  | refl => rfl
  | step hle ih =>
    rw [← ih]
    exact (run_fuel_succ gram toks _).1 g st (by rw [ih]; exact hne)

/-- **C08.parse_fuel_independent**: picotool's parse of a token array does not depend on the fuel once it is not the fuel error. -/
theorem parse_fuel_independent (toks : Array Tok) (f f' : Nat) (h : f ≤ f') (hne : parse toks f ≠ .error .fuel) :
    parse toks f' = parse toks f :=
  fuel_independent Gram.gram toks f f' h _ _ hne

/-- non-vacuity: `if (a) b=1 ⏎ c=2` parses, the short-if owns tokens 0..8 and the next statement follows it -/
def demoToks : Array Tok := #[
  { kind := .keyword, data := "if".toUTF8.toList }, { kind := .space, data := [32] }, { kind := .symbol, data := [40] },
  { kind := .name, data := [97] }, { kind := .symbol, data := [41] }, { kind := .space, data := [32] },
  { kind := .name, data := [98] }, { kind := .symbol, data := [61] }, { kind := .number, data := [49] },
  { kind := .newline, data := [10] }, { kind := .name, data := [99] }, { kind := .symbol, data := [61] }, { kind := .number, data := [50] }]
example : (match parse demoToks 400 with
    | .ok (some ([.node _ 0 13 (.node k 0 9 _ :: _)], st)) => k == Gram.kStatIfShort && st.pos == 13
    | _ => false) = true := by decide +kernel

end Pico.C08
