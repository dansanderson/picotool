import PicoVerif.Lemmas.C01Min
/-! C19 — luamin keeps the title and author comments that PICO-8 reads. -/
namespace Pico.C19
open Pico.Lex Pico.Wr

/-- the comments that precede any code -/
def leadComments : List Tok → List Tok
  | [] => []
  | t :: rest => if t.kind = .comment then t :: leadComments rest else if t.trivia then leadComments rest else []

/-- the header luamin must keep: the first two of them -/
def hdr (toks : List Tok) : List Tok := (leadComments toks).take 2

/-- a comment token as the lexer produces it: a `--`/`//` line comment without a line feed, or a block
comment `--[[ ... ]]` whose first `]]` after the opener is its end -/
def WFComment (t : Tok) : Prop :=
  t.kind = .comment ∧
  ((([45, 45].isPrefixOf t.data ∨ [47, 47].isPrefixOf t.data) ∧ ¬ [45, 45, 91, 91].isPrefixOf t.data ∧ (10 : UInt8) ∉ t.data) ∨
   (∃ body, t.data = [45, 45, 91, 91] ++ body ++ [93, 93] ∧ findSub [93, 93] (body ++ [93, 93]) 0 = some body.length))

theorem minStep_seen (cfg : NameCfg) (st : MinSt) (t : Tok) (hk : t.trivia = false) :
    minStep cfg { st with seenCode := true } t = minStep cfg st t := by
  rw [C01L.minStep_sig _ _ _ hk, C01L.minStep_sig _ _ _ hk]

theorem leadTrivia_chunks (cfg : NameCfg) (toks : List Tok) :
    ∀ st : MinSt, st.seenCode = false → st.lastNL = true →
    ∃ st' rest, minChunks cfg st toks =
        ((leadComments toks).take (2 - st.hdr)).flatMap (fun t => [t.code, [10]]) ++ minChunks cfg st' rest ∧
      (st'.seenCode = true ∨ st'.hdr ≥ 2 ∨ rest = []) ∧ (∃ pre, toks = pre ++ rest) := by
  induction toks with
  | nil => intro st _ _; exact ⟨st, [], by simp [leadComments, minChunks], by simp, [], rfl⟩
  | cons t ts ih =>
    intro st h1 h2
    by_cases hh : st.hdr ≥ 2
    · refine ⟨st, t :: ts, ?_, Or.inr (Or.inl hh), [], rfl⟩
      rw [show 2 - st.hdr = 0 by omega]; simp
    · have hlt : st.hdr < 2 := by omega
      rcases C01L.trivia_cases t with htr | ⟨htr, hk | hk | hk⟩
      · have hc : t.kind ≠ .comment := fun h => by simp [Tok.trivia, h] at htr
        refine ⟨{ st with seenCode := true }, t :: ts, ?_, Or.inl rfl, [], rfl⟩
        simp only [minChunks, minStep_seen cfg st t htr, leadComments, hc, if_false, htr]
        simp
      · obtain ⟨st', rest, e, hp, pre, hpre⟩ := ih st h1 h2
        refine ⟨st', rest, ?_, hp, t :: pre, by rw [hpre]; rfl⟩
        simp [minChunks, C01L.minStep_space cfg st t hk, leadComments, hk, htr, e]
      · obtain ⟨st', rest, e, hp, pre, hpre⟩ := ih { st with lastNKN := false, lastNL := true } h1 rfl
        refine ⟨st', rest, ?_, hp, t :: pre, by rw [hpre]; rfl⟩
        simp [minChunks, C01L.minStep_newline cfg st t hk, h2, leadComments, hk, htr, e]
      · obtain ⟨st', rest, e, hp, pre, hpre⟩ := ih { st with hdr := st.hdr + 1 } h1 h2
        refine ⟨st', rest, ?_, hp, t :: pre, by rw [hpre]; rfl⟩
        have hkept : minStep cfg st t = ({ st with hdr := st.hdr + 1 }, [t.code, [10]]) := by
          rw [C01L.minStep_comment cfg st t hk, if_pos (by simp [h1, hlt])]
        simp only [minChunks, hkept, leadComments, hk, if_true]
        rw [e, show 2 - st.hdr = (2 - (st.hdr + 1)) + 1 by omega]
        simp

theorem join_header (code : Tok → Bytes) (l : List Tok) (r : List Bytes) :
    ∀ prev : Bytes, prev = [] ∨ prev = [10] →
    ∃ prev', joinChunks prev (l.flatMap (fun t => [code t, [10]]) ++ r) =
      l.flatMap (fun t => code t ++ [10]) ++ joinChunks prev' r := by
  induction l with
  | nil => intro prev _; exact ⟨prev, by simp⟩
  | cons t ts ih =>
    intro prev hp
    obtain ⟨prev', e⟩ := ih [10] (Or.inr rfl)
    refine ⟨prev', ?_⟩
    have h1 : needsSpace prev (code t) = false := by
      rcases hp with rfl | rfl
      · simp [needsSpace]
      · exact C01L.needsSpace_nl _
    simp only [List.flatMap_cons, List.cons_append, List.nil_append, joinChunks, h1,
      C01L.needsSpace_head _ [10] 10 rfl (by decide) (by decide) (by decide), e]
    simp

/-- **C19.header**: the first two comments that precede any code appear verbatim, in order, each on its
own line, at the very top of the luamin output — for every configuration. -/
theorem header (cfg : NameCfg) (toks : List Tok) :
    ∃ body, minify cfg toks = (hdr toks).flatMap (fun t => t.code ++ [10]) ++ body := by
  obtain ⟨st, rest, e, -, -⟩ := leadTrivia_chunks cfg toks {} rfl rfl
  obtain ⟨prev', e'⟩ := join_header Tok.code (hdr toks) (minChunks cfg st rest) [] (Or.inl rfl)
  refine ⟨joinChunks prev' (minChunks cfg st rest), ?_⟩
  rw [← e', minify, e]
  simp [hdr]

/-- **C19.header_lexes_back**: under the lexical grammar a kept comment followed by the line feed luamin adds
reads back as exactly that comment and then a newline, whatever follows — so the title and byline PICO-8 and
`stats` derive from the first tokens survive. -/
theorem header_lexes_back (t : Tok) (h : WFComment t) (rest : Bytes) :
    Spec.Lex.lexOne (t.code ++ [10] ++ rest) = some ({ kind := .comment, data := t.data }, t.data.length) ∧
    Spec.Lex.lexOne ([10] ++ rest) = some ({ kind := .newline, data := [10] }, 1) := by
  refine ⟨?_, C01L.lexOne_newline rest⟩
  obtain ⟨hk, h⟩ := h
  rw [C01L.code_plain t (by simp [hk])]
  rcases h with ⟨hp, hb, hlf⟩ | ⟨body, hd, hf⟩
  · generalize t.data = d at hp hb hlf ⊢
    obtain ⟨c, body, rfl, hc⟩ : ∃ c body, d = c :: c :: body ∧ (c = 45 ∨ c = 47) := by
      rcases d with _ | ⟨a, _ | ⟨b, xs⟩⟩ <;> simp [List.isPrefixOf] at hp
      rcases hp with ⟨rfl, rfl⟩ | ⟨rfl, rfl⟩ <;> simp
    simpa using C01L.lexOne_lineComment c body rest hc (fun b hm e => hlf (by simp [← e, hm])) (Bool.eq_false_iff.mpr hb)
  · rw [hd]
    simpa using C01L.lexOne_block _ (10 :: rest) (C01L.blockOK_of_findSub body hf)

/-- **C19.later_comments_dropped**: once two header comments were kept or code was seen, a comment token
produces no output and leaves the writer's state unchanged — it can never turn into code. -/
theorem later_comments_dropped (cfg : NameCfg) (st : MinSt) (t : Tok) (hk : t.kind = .comment)
    (h : st.seenCode = true ∨ st.hdr ≥ 2) : minStep cfg st t = (st, []) := by
  rw [C01L.minStep_comment cfg st t hk, if_neg]
  rcases h with h | h <;> simp [h]

/-- **C19.only_header_comments**: every chunk luamin emits for a comment token is one of the header
comments: the chunk list is the header chunks followed by chunks of non-comment tokens only. -/
theorem only_header_comments (cfg : NameCfg) (toks : List Tok) :
    ∃ st rest, minChunks cfg {} toks = (hdr toks).flatMap (fun t => [t.code, [10]]) ++ minChunks cfg st rest ∧
      (st.seenCode = true ∨ st.hdr ≥ 2 ∨ rest = []) ∧ (∃ pre, toks = pre ++ rest) := by
  simpa [hdr] using leadTrivia_chunks cfg toks {} rfl rfl

example : hdr [{ kind := .space, data := [32] }, { kind := .comment, data := [45, 45, 97] }, { kind := .newline, data := [10] },
               { kind := .name, data := [120] }, { kind := .comment, data := [45, 45, 98] }]
    = [{ kind := .comment, data := [45, 45, 97] }] := by decide

end Pico.C19
