import PicoVerif.Lemmas.C07
/-! C07 — the lexer agrees with the PICO-8/Lua lexical grammar on kinds, extents, decoded strings, positions. -/
namespace Pico.C07
open Pico.Lex

/-- side condition on the concrete table, re-checked against the regenerated order on every run -/
theorem literals_prefix_ordered : prefixOrdered litBlock = true := LexL.litBlock_ordered

/-- general lemma: in a prefix-ordered literal table the first matching literal is the longest one -/
theorem ordered_first_is_longest (lits : List Bytes) (s l : Bytes) (h : prefixOrdered lits = true)
    (hf : lits.find? (fun x => x.isPrefixOf s) = some l) : ∀ l' ∈ lits, l'.isPrefixOf s = true → l'.length ≤ l.length :=
  LexL.ordered_first_longest lits s l h hf

/-- **C07.first_is_longest**: walking picotool's *ordered* pattern table (first match wins) yields the
*longest* match among the token classes of the grammar, with the same kind and extent. -/
theorem first_is_longest (s : Bytes) (h : PlainStart s) :
    (matchOne Gen.matcherShape s).map (fun kn => (kn.1, kn.2)) =
      (Spec.Lex.lexOne s).map (fun tn => (tn.1.kind, tn.2)) := by
  rw [C07L.lexOne_plain s ((LexL.start_plain_iff s).mpr h), Option.map_map]; rfl

/-- **C07.lex_agrees_spec**: whenever the reference grammar accepts a source, the lexer returns exactly the
grammar's token list: same boundaries (longest match), kinds, decoded string bytes, and line/column. -/
theorem lex_agrees_spec (src : Bytes) (ts : List Tok) (h : Spec.Lex.lexSource src = some ts) :
    lex [src] = .ok ts := by
  obtain ⟨st', h1, h2, h3⟩ := C07L.run_agrees (src.length + 1) src {} ts rfl h
  simp only [lex, processLines, processLinesFrom, LexL.processLine_fuel _ _ _ _ (Nat.le_succ _), h1, h2]
  simpa using h3

/-- **C07.chunk_independent**: tokenisation does not depend on whether the text arrives as one chunk
(.p8.png path) or split at line ends (.p8 path). -/
theorem chunk_independent (src : Bytes) : lex (splitLines src) = lex [src] := by
  simp only [lex, processLines]
  rw [splitLines, C07L.lines_eq_chunk src [] {} trivial, C07L.processLinesFrom_single]; rfl

end Pico.C07
