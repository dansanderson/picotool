import PicoVerif.Model.Build
import PicoVerif.Spec.EmptyCart
import PicoVerif.Lemmas.C13
/-! C13 — build takes each cart section from exactly the source the arguments name.
The wiring argparse -> `do_build` and the cart readers/writers are tied by the correspondence (all 4^6 assignments in
the thorough tier), not proved. -/
namespace Pico.C13
open Pico.Build

/-- **C13.section_choice**: after a successful build every section of OUT is the named source cart's section if a
source was given, the empty default if `--empty-X` was given, otherwise OUT's previous section (or the empty default
if OUT did not exist). -/
theorem section_choice (outExtOk : Bool) (args : Sec → SecArg) (files : Nat → FileInfo) (e : Cart) (out : Option Cart) (r : Cart)
    (h : doBuild outExtOk args files e out = .ok r) : ∀ s, s ≠ .label → r s = choice args files e out s := by
  intro s hne
  rw [(doBuild_ok h).2 s, if_pos (mem_secs hne)]

/-- **C13.label_kept**: whatever the arguments say, a successful build leaves the label as it was: the label of the existing OUT
(a `.p8` OUT keeps its `__label__` section, a `.p8.png` OUT its picture), the empty default when OUT did not exist. -/
theorem label_kept (outExtOk : Bool) (args : Sec → SecArg) (files : Nat → FileInfo) (e : Cart) (out : Option Cart) (r : Cart)
    (h : doBuild outExtOk args files e out = .ok r) : r .label = (out.getD e) .label := by
  rw [(doBuild_ok h).2 .label, if_neg (by decide)]

/-- **C13.conflict_fails**: `--X` together with `--empty-X`, a missing source file or a wrong extension — for any
section — make the command fail (and nothing is written: `do_build` returns before `to_file`). -/
theorem conflict_fails (outExtOk : Bool) (args : Sec → SecArg) (files : Nat → FileInfo) (e : Cart) (out : Option Cart)
    (s : Sec) (hnl : s ≠ .label) (hbad : badArg args files s = true) : ∃ err, doBuild outExtOk args files e out = .error err := by
  cases h : doBuild outExtOk args files e out with
  | error err => exact ⟨err, rfl⟩
  | ok r => rw [(doBuild_ok h).1 s (mem_secs hnl)] at hbad; cases hbad

/-- **C13.bad_output_name_fails**: an output name that is neither .p8 nor .p8.png fails. -/
theorem bad_output_name_fails (args : Sec → SecArg) (files : Nat → FileInfo) (e : Cart) (out : Option Cart) :
    doBuild false args files e out = .error .type_ := by simp [doBuild]

/-- **C13.no_args_keeps_out**: with no section arguments an existing OUT is reproduced unchanged. -/
theorem no_args_keeps_out (files : Nat → FileInfo) (e c : Cart) : doBuild true (fun _ => {}) files e (some c) = .ok c := by
  simp [doBuild, secs, List.foldlM, step, bind, Except.bind, pure, Except.pure]

/-- the empty cart of the specification as a `Cart` (no label) -/
def specEmpty : Cart
  | .lua => Spec.Empty.lua | .gfx => Spec.Empty.gfx | .gff => Spec.Empty.gff | .map => Spec.Empty.map
  | .sfx => Spec.Empty.sfx | .music => Spec.Empty.music | .label => []

/-- the regions of the empty default have the sizes of the cart's memory regions -/
theorem empty_sizes : Spec.Empty.gfx.length = 0x2000 ∧ Spec.Empty.map.length = 0x1000 ∧ Spec.Empty.gff.length = 0x100 ∧
    Spec.Empty.music.length = 0x100 ∧ Spec.Empty.sfx.length = 0x1100 := by
  refine ⟨List.length_replicate .., List.length_replicate .., List.length_replicate .., ?_, ?_⟩
  · rw [Spec.Empty.music, length_flatten_of_length _ (Spec.Empty.music_rows_length 64), List.length_replicate]
  · rw [Spec.Empty.sfx, length_flatten_of_length _ (Spec.Empty.sfx_rows_length 64), List.length_map,
      List.length_range]

/-- the empty sound-effect region, record by record: 64 zero note bytes, editor mode 0, speed 1 for sound effect 0 and 16 for
the other 63, no loop -/
theorem empty_sfx_records (i : Nat) (h : i < 64) :
    (Spec.Empty.sfx.drop (68 * i)).take 68 = List.replicate 64 0 ++ [0, if i = 0 then 1 else 16, 0, 0] := by
  rw [Spec.Empty.sfx, flatten_record _ i (Spec.Empty.sfx_rows_length 64)]
  simp [h, Spec.Empty.sfxPattern]

/-- the empty music region: the four channels of every pattern are silent (bit 6 set) -/
theorem empty_music_records (i : Nat) (h : i < 64) : (Spec.Empty.music.drop (4 * i)).take 4 = [0x41, 0x42, 0x43, 0x44] := by
  rw [Spec.Empty.music, flatten_record _ i (Spec.Empty.music_rows_length 64),
    List.getD_eq_getElem?_getD, List.getElem?_replicate, if_pos h]
  rfl

/-- **C13.new_out_gets_pico8_defaults**: a build into an OUT that did not exist gives every section the arguments do not name
the content of a new PICO-8 cart, and `--empty-X` gives section X that content whatever OUT held. -/
theorem new_out_gets_pico8_defaults (outExtOk : Bool) (args : Sec → SecArg) (files : Nat → FileInfo) (out : Option Cart) (r : Cart)
    (h : doBuild outExtOk args files specEmpty out = .ok r) (s : Sec) (hs : s ≠ .label) (hf : (args s).file = none) :
    ((args s).empty = true → r s = specEmpty s) ∧ ((args s).empty = false → out = none → r s = specEmpty s) := by
  have := section_choice outExtOk args files specEmpty out r h s hs
  rw [this]
  unfold choice
  rw [hf]
  constructor
  · intro he; simp [he]
  · intro he ho; simp [he, ho]

example : (specEmpty .sfx).getD 65 0 = 1 ∧ (specEmpty .sfx).getD 133 0 = 16 := by decide +kernel

end Pico.C13
