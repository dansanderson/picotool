import PicoVerif.Model.ToFile
import PicoVerif.Lemmas.C11
/-! C11 — a failed cart write never damages the file already at the destination.
PARTIAL BY NATURE: the model is the write protocol of `file.to_file`; it cannot exhibit operating-system behaviour
(a crash between the truncation and the final copy, ENOSPC during the copy).  The property quantifies over encoder
failures, which the model covers for every failure point. -/
namespace Pico.C11
open Pico.ToFile

/-- **C11.fail_preserves**: if producing the cart fails at any point — before the first write or after any number
of writes — the destination is exactly as before: an existing file keeps its bytes, a missing one is not created. -/
theorem fail_preserves (ws : List Bytes) (readsLabel : Bool) (dest : Option Bytes) :
    (toFile (.raises ws) readsLabel dest).dest = dest ∧ (toFile (.raises ws) readsLabel dest).ok = false :=
  ⟨rfl, rfl⟩

/-- **C11.no_dest_op_on_failure**: on failure no operation that creates, truncates or writes the destination occurs. -/
theorem no_dest_op_on_failure (ws : List Bytes) (readsLabel : Bool) (dest : Option Bytes) :
    ∀ op ∈ (toFile (.raises ws) readsLabel dest).trace, op.touchesDest = false :=
  pre_no_dest readsLabel dest ws

/-- **C11.success_replaces**: on success the destination holds exactly what the encoder wrote. -/
theorem success_replaces (ws : List Bytes) (readsLabel : Bool) (dest : Option Bytes) :
    (toFile (.returns ws) readsLabel dest).dest = some ws.flatten ∧ (toFile (.returns ws) readsLabel dest).ok = true :=
  ⟨rfl, rfl⟩

/-- **C11.dest_ops_last**: in every run the operations that touch the destination (truncate/create, write) are the
very last ones: everything the encoder does — all its writes — comes before them, and they occur only if it returned. -/
theorem dest_ops_last (enc : Enc) (readsLabel : Bool) (dest : Option Bytes) :
    ∃ pre, (∀ op ∈ pre, op.touchesDest = false) ∧
      (toFile enc readsLabel dest).trace = pre ++
        (match enc with
         | .returns ws => [Op.tempSeek0, Op.destOpenTruncate, Op.destWrite ws.flatten]
         | .raises _ => []) := by
  cases enc with
  | raises ws => exact ⟨_, pre_no_dest readsLabel dest ws, (List.append_nil _).symm⟩
  | returns ws => exact ⟨_, pre_no_dest readsLabel dest ws, rfl⟩

example : (toFile (.raises [[1, 2]]) true (some [9])).dest = some [9] := by decide
example : (toFile (.returns [[1], [2]]) false none).dest = some [1, 2] := by decide

/-- **C11.cli_never_removes**: whatever carts a command line names and whichever of them fail, no file that existed before
the command is missing afterwards. -/
theorem cli_never_removes (ow : Bool) (cs : List CartArg) (s : Store) (err : Bool) (p : String) (h : (s.get p).isSome) :
    ((processGameFiles ow cs s err).1.get p).isSome := by
  refine processGameFiles_store ow (fun s => (s.get p).isSome) cs (fun c _ _ _ s ws hs => ?_) s err h
  by_cases hq : p = outName ow c
  · rw [hq, Store.get_set_self]; rfl
  · rw [Store.get_set_ne _ _ hq]; exact hs

/-- **C11.cli_failure_stops**: when a cart's write raises, the store is exactly what the carts before
it produced: the failing cart's destination — its own input with `--overwrite` — and everything else are untouched. -/
theorem cli_failure_stops (ow : Bool) (pre : List CartArg) (c : CartArg) (post : List CartArg) (s : Store) (err : Bool) (ws : List Bytes)
    (hpre : ∀ q ∈ pre, q.cart = false ∨ q.loads = false ∨ ∃ w, q.enc = .returns w) (hk : c.cart = true) (hl : c.loads = true) (hc : c.enc = .raises ws) :
    (processGameFiles ow (pre ++ c :: post) s err).2 = .raised ∧
    (processGameFiles ow (pre ++ c :: post) s err).1 = (processGameFiles ow pre s err).1 := by
  induction pre generalizing s err with
  | nil => simp [processGameFiles_cons, hk, hl, hc, processGameFiles]
  | cons q rest ih =>
    have ih := fun s err => ih s err fun x hx => hpre x (List.mem_cons_of_mem _ hx)
    rw [List.cons_append, processGameFiles_cons, processGameFiles_cons]
    cases hqk : q.cart with
    | false => simp only [Bool.false_eq_true, ↓reduceIte]; exact ih s err
    | true =>
      cases hql : q.loads with
      | false => simp only [Bool.false_eq_true, ↓reduceIte]; exact ih s true
      | true =>
        obtain ⟨w, hw⟩ : ∃ w, q.enc = .returns w := by simpa [hqk, hql] using hpre q List.mem_cons_self
        simp only [hw, ↓reduceIte]; exact ih _ err

/-- **C11.cli_only_destinations_change**: a path that is not the output name of a loadable cart keeps its content (in particular an
argument that is not a cart name changes nothing and shifts nothing: every cart is written under its own output name). -/
theorem cli_only_destinations_change (ow : Bool) (cs : List CartArg) (s : Store) (err : Bool) (p : String)
    (hp : ∀ c ∈ cs, c.cart = true → c.loads = true → outName ow c ≠ p) :
    (processGameFiles ow cs s err).1.get p = s.get p :=
  processGameFiles_store ow (fun s' => s'.get p = s.get p) cs
    (fun c hc hk hl _ _ hs => (Store.get_set_ne _ _ fun e => hp c hc hk hl e.symm).trans hs) s err rfl

end Pico.C11
