import PicoVerif.Lemmas.C16
/-! C16 — on-disk encodings match the PICO-8 formats (`Spec.Formats`), not merely each other. -/
namespace Pico.C16
open Pico.Sections Pico.P8Png Pico.P8File

/-- the regenerated row widths are the format's -/
theorem widths_ok : Gen.hexLineLenGfx = 64 ∧ Gen.hexLineLenGff = 128 ∧ Gen.hexLineLenMap = 128 := by decide

/-- **C16.gfx_lines**: the gfx/label text is 128 rows of 128 pixel digits in screen order. -/
theorem gfx_lines (m : Bytes) (h : m.length = 0x2000) : gfxToLines m = Spec.gfxRows m :=
  chunks_map_eq 64 128 (by omega) m h 0 _ _ fun y _ => by rw [C16L.gfx_row m y]; rfl

/-- **C16.gfx_read**: reading that text gives the memory bytes back. -/
theorem gfx_read (m : Bytes) (h : m.length = 0x2000) : gfxFromLines (Spec.gfxRows m) = .ok m := by
  rw [← gfx_lines m h]; exact gfxFromLines_gfxToLines m h

/-- **C16.hex_rows**: gff (2 rows) and map (32 rows) are plain hex rows of 128 bytes. -/
theorem hex_rows (m : Bytes) (rows : Nat) (h : m.length = 128 * rows) :
    hexToLines 128 m = Spec.hexRows 128 rows m :=
  C16L.hex_rows 128 (by omega) m rows h

theorem hex_read (m : Bytes) (rows : Nat) (h : m.length = 128 * rows) :
    hexFromLines (Spec.hexRows 128 rows m) = .ok m := by
  rw [← hex_rows m rows h]; exact hexFromLines_hexToLines 128 (by omega) m

/-- **C16.sfx_note**: the five digits of a note are the documented bit fields of its 16-bit word
(all 65,536 words: the fields of each byte as numbers, the word by arithmetic). -/
theorem sfx_note (lsb msb : UInt8) : noteText lsb msb = Spec.noteText (lsb.toNat + 256 * msb.toNat) :=
  C16L.sfx_note lsb msb

/-- **C16.sfx_lines**: the sfx text is the format's 64 pattern rows. -/
theorem sfx_lines (m : Bytes) (h : m.length = 0x1100) : sfxToLines m = some (Spec.sfxRows m) := by
  rw [sfxToLines_eq m h]
  exact congrArg some (chunks_map_eq 68 64 (by omega) m h 0 _ _ fun id _ => C16L.sfxPatternLine_row m id)

/-- **C16.sfx_read**: reading the documented text gives the memory bytes back. -/
theorem sfx_read (m : Bytes) (h : m.length = 0x1100) : sfxFromLines (Spec.sfxRows m) = .ok m := by
  rw [← Option.some.inj ((sfxToLines_eq m h).symm.trans (sfx_lines m h))]
  exact sfxFromLines_enc m h

/-- **C16.music_lines**: the music text is the format's row for every pattern. -/
theorem music_lines (m : Bytes) (h : m.length % 4 = 0) : musicToLines m = some (Spec.musicRows m) :=
  match m, h with
  | [], _ => rfl
  | [_], h | [_, _], h | [_, _, _], h => by simp at h
  | a :: b :: c :: d :: rest, h => by
    rw [musicToLines_cons, music_lines rest (by simp at h; omega), C16L.musicRows_cons, C16L.musicRow_zero]
    rfl

/-- **C16.music_read**: reading gives the bytes back except the bit the format has no place for. -/
theorem music_read (m : Bytes) (h : m.length % 4 = 0) :
    musicFromLines (Spec.musicRows m) = .ok (musicNorm m) := by
  obtain ⟨ls, hw, hr, _⟩ := musicFromLines_musicToLines m h
  rw [music_lines m h] at hw; cases hw; exact hr

/-- **C16.png_channels**: the byte read from a pixel is A2 R2 G2 B2. -/
theorem png_channels (r g b a : UInt8) :
    (decPixel r g b a).toNat = Spec.pixelByte r.toNat g.toNat b.toNat a.toNat :=
  C16L.png_channels r g b a

/-- **C16.png_pixel_rt**: a written pixel reads back as the byte, and keeps the upper six bits of every channel. -/
theorem png_pixel_rt (r g b a v : UInt8) :
    (match encPixel r g b a v with
     | [r', g', b', a'] => decPixel r' g' b' a' = v ∧
         r' >>> (2 : UInt8) = r >>> (2 : UInt8) ∧ g' >>> (2 : UInt8) = g >>> (2 : UInt8) ∧
         b' >>> (2 : UInt8) = b >>> (2 : UInt8) ∧ a' >>> (2 : UInt8) = a >>> (2 : UInt8)
     | _ => False) :=
  C16L.png_pixel_rt r g b a v

/-- the regenerated slices and join order are the documented layout -/
theorem png_layout_tables :
    Gen.pngSlices = [("gfx", 0, 0x2000), ("p8map", 0x2000, 0x3000), ("gfx_props", 0x3000, 0x3100),
      ("song", 0x3100, 0x3200), ("sfx", 0x3200, 0x4300), ("codedata", 0x4300, 0x8000), ("version", 0x8000, 0x8001)] ∧
    Gen.pngJoinOrder = ["game.gfx.to_bytes()", "game.map.to_bytes()", "game.gff.to_bytes()",
      "game.music.to_bytes()", "game.sfx.to_bytes()", "code_bytes", "bytes((game.version,))"] := by decide

/-- **C16.png_layout**: in the hidden data each region sits at its documented address. -/
theorem png_layout (c : Cart) (cb : Bytes)
    (hg : c.gfx.length = 0x2000) (hm : c.map.length = 0x1000) (hf : c.gff.length = 0x100)
    (hmu : c.music.length = 0x100) (hs : c.sfx.length = 0x1100) (hc : cb.length = 0x3d00) (hv : c.version < 256) :
    let p := picodata c cb
    pySlice p 0 0x2000 = c.gfx ∧ pySlice p 0x2000 0x3000 = c.map ∧ pySlice p 0x3000 0x3100 = c.gff ∧
    pySlice p 0x3100 0x3200 = c.music ∧ pySlice p 0x3200 0x4300 = c.sfx ∧ pySlice p 0x4300 0x8000 = cb ∧
    p.length = 0x8001 ∧ (p.getD 0x8000 0).toNat = c.version :=
  C16L.png_layout c cb hg hm hf hmu hs hc hv

end Pico.C16
