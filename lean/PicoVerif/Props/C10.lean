import PicoVerif.Model.AstWriters
import PicoVerif.Lemmas.C10
import PicoVerif.Lemmas.C09
/-! C10 — luafmt output is canonical.  Theorems about `normRun`, the formatter's regex pipeline as a function: what
`LuaFormatterWriter` writes for one run of space/newline/comment tokens (width `w`, indent level `d` in force,
`atStart`/`atEnd` = the run starts / ends the token stream).  The whole output is these rendered runs interleaved
with the tokens' codes (C09.output_shape); the indent level is a function of the tree (`walkInd`).
PARTIAL: lifting run-level layout independence to whole programs needs "the tree depends only on the significant
tokens and newline gaps", which is correspondence-tested, not proved. -/
namespace Pico.C10
open Pico.Ast Pico.Lex

def isWs (b : UInt8) : Bool := b == 32 || b == 9 || b == 13 || b == 10
def indentOf (w d : Nat) : Bytes := List.replicate (w * d) 32

/-- **C10.no_trailing_ws**: in a rendered run no line ends in whitespace: a line feed is never preceded by a space,
a tab or a carriage return. -/
theorem no_trailing_ws (w d : Nat) (s e : Bool) (r : Bytes) (i : Nat)
    (h : (normRun w d s e r)[i + 1]? = some 10) :
    (normRun w d s e r)[i]? ≠ some 32 ∧ (normRun w d s e r)[i]? ≠ some 9 ∧ (normRun w d s e r)[i]? ≠ some 13 := by
  have hc := normRun_clean w d s e r
  refine ⟨NoSpLF_index _ (normRun_inv w d s e r).1.noSpLF i h, ?_, ?_⟩
  · intro h9; exact (hc 9 (List.mem_of_getElem? h9)).1 rfl
  · intro h13; exact (hc 13 (List.mem_of_getElem? h13)).2 rfl

/-- **C10.blank_lines**: a rendered run never contains more than one blank line in a row (three line feeds). -/
theorem blank_lines (w d : Nat) (s e : Bool) (r : Bytes) (i : Nat) :
    ¬ ((normRun w d s e r)[i]? = some 10 ∧ (normRun w d s e r)[i + 1]? = some 10 ∧ (normRun w d s e r)[i + 2]? = some 10) :=
  NoTriple_index _ (normRun_inv w d s e r).2 i

/-- **C10.no_blank_at_end**: the run that ends the file is rendered without trailing spaces or blank lines: it ends
in at most one line feed, preceded by neither a space nor a line feed. -/
theorem no_blank_at_end (w d : Nat) (s : Bool) (r : Bytes) :
    let out := normRun w d s true r
    out.getLast? ≠ some 32 ∧ (∀ body, out = body ++ [10] → body.getLast? ≠ some 10 ∧ body.getLast? ≠ some 32) := by
  intro out
  obtain ⟨pre, t, _, hp, _, e'⟩ := subTrailing_cases (collapseLF (midRun (w * d) s (dropSpacesBeforeLF (normBreaks r))))
  have ho : out = pre ++ if t.contains 10 then [10] else [] := by rw [← e', ← endRun_atEnd (w * d) s]; rfl
  rw [ho]
  split
  · exact ⟨by simp, fun body hb => by rw [← List.append_cancel_right hb]; exact ⟨hp.2, hp.1⟩⟩
  · rw [List.append_nil]
    exact ⟨hp.1, fun body hb => absurd (by rw [hb]; simp) hp.2⟩

/-- **C10.indent_exact**: when the code token after the run begins a line (the run's last line is blank), the
rendered run ends with a line feed followed by exactly `width x depth` spaces. -/
theorem indent_exact (w d : Nat) (s : Bool) (pre : Bytes) (k : Nat) (hpre : pre.getLast? ≠ some 13) :
    ∃ body, normRun w d s false (pre ++ [10] ++ List.replicate k 32) = body ++ [10] ++ indentOf w d ∧ body.getLast? ≠ some 32 :=
  normRun_indent w d s pre (List.replicate k 32) (by simp)

/-- **C10.idempotent**: rendering an already rendered run changes nothing (formatting formatted code is stable). -/
theorem idempotent (w d : Nat) (s e : Bool) (r : Bytes) :
    normRun w d s e (normRun w d s e r) = normRun w d s e r := by
  have hi := (normRun_inv w d s e r).1
  rw [normRun_eq w d s e (normRun w d s e r), normBreaks_id _ (normRun_clean w d s e r), dsl_of_NoSpLF _ hi.noSpLF,
    midRun_id _ _ _ hi.lineOK hi.start]
  rw [normRun_eq]
  exact endRun_idem _ _ _ _

/-- **C10.trailing_space_invariant**: spaces and tabs at the end of an input line do not influence the output. -/
theorem trailing_space_invariant (w d : Nat) (s e : Bool) (a ws b : Bytes) (hws : ws.all (fun c => c == 32 || c == 9) = true)
    (ha : a.getLast? ≠ some 13) :
    normRun w d s e (a ++ ws ++ [10] ++ b) = normRun w d s e (a ++ [10] ++ b) := by
  rw [normRun_eq, normRun_eq]
  congr 2
  obtain ⟨b', hb'⟩ := normBreaks_lf_cons b
  rw [show a ++ ws ++ [10] ++ b = a ++ (ws ++ 10 :: b) by simp, show a ++ [10] ++ b = a ++ 10 :: b by simp,
    normBreaks_append a _ ha (ws_head? ws _ hws (by simp)), normBreaks_append a _ ha (by simp),
    normBreaks_ws_append ws _ hws (by simp), hb', ← List.append_assoc, dsl_spaces_lf]

/-- **C10.leading_space_invariant**: how an input line that is blank, a comment line (`--` or PICO-8's `//`) or the
code line after the run is indented does not influence the output. -/
theorem leading_space_invariant (w d : Nat) (s e : Bool) (a ws b : Bytes) (hws : ws.all (fun c => c == 32 || c == 9) = true)
    (hb : b = [] ∨ [45, 45].isPrefixOf b = true ∨ [47, 47].isPrefixOf b = true ∨ b.head? = some 10) :
    normRun w d s e (a ++ [10] ++ ws ++ b) = normRun w d s e (a ++ [10] ++ b) := by
  apply normRun_leading w d s e a ws b hws
  rcases hb with hb | hb | hb | hb
  · exact Or.inl hb
  · obtain ⟨r, hr⟩ := (isPrefixOf_pair 45 b).mp hb
    exact Or.inr (Or.inl ⟨45, r, Or.inl rfl, hr⟩)
  · obtain ⟨r, hr⟩ := (isPrefixOf_pair 47 b).mp hb
    exact Or.inr (Or.inl ⟨47, r, Or.inr rfl, hr⟩)
  · exact Or.inr (Or.inr (List.head?_eq_some_iff.mp hb))

/-- **C10.comment_lines_indented**: a comment that starts a line (`--` or `//`, however it was indented) is written
at exactly `width x depth` spaces. -/
theorem comment_lines_indented (w d : Nat) (s e : Bool) (a ws m b : Bytes) (hws : ws.all (fun c => c == 32 || c == 9) = true)
    (hm : m = [45, 45] ∨ m = [47, 47]) :
    ∃ pre post, normRun w d s e (a ++ [10] ++ ws ++ m ++ b) = pre ++ [10] ++ indentOf w d ++ m ++ post := by
  rcases hm with rfl | rfl
  · exact normRun_comment_line w d s e a ws b 45 hws (Or.inl rfl)
  · exact normRun_comment_line w d s e a ws b 47 hws (Or.inr rfl)

/-- where the trivia run in front of the `k`-th walked token starts: right after the previous walked token -/
def runStart (walk : List (Nat × Nat)) (k : Nat) : Nat := if k = 0 then 0 else (walk.getD (k - 1) (0, 0)).1 + 1

/-- **C10.line_start_indent_whole**: in the WHOLE text `luafmt` writes, every significant token that begins a line of the
input (the trivia in front of it ends with a line feed followed by blanks only) stands right after a line feed and
exactly `width x depth` spaces, `depth` being the level the tree walk (`walkInd`) assigns to it.  (Composition of the
run-level theorem with the whole-output form of C09, `astWrite_ok_iff` and `render_nth`; the level itself is compared with an independent nesting count by the
harness.) -/
theorem line_start_indent_whole (w : Nat) (toks : List Tok) (out : Bytes) (h : luafmt w toks = .ok out) :
    ∃ ts st', Peg.run Gram.gram toks.toArray (50 * toks.toArray.size + 200) (.nt Gram.nChunk) { pos := 0, maxPos := none } = .ok (some (ts, st')) ∧
      ∀ (k i d : Nat), (ts.flatMap fun t => walkInd toks.toArray t 0)[k]? = some (i, d) →
        ∀ pre ws, runText toks.toArray (runStart (ts.flatMap fun t => walkInd toks.toArray t 0) k) i = pre ++ [10] ++ ws →
          ws.all (fun c => c == 32 || c == 9) = true → pre.getLast? ≠ some 13 →
          ∃ a b, out = a ++ [10] ++ indentOf w d ++ (toks.toArray.getD i default).code ++ b := by
  obtain ⟨ts, st', hrun, _, rfl⟩ := (astWrite_ok_iff _ toks out).1 h
  refine ⟨ts, st', hrun, ?_⟩
  intro k i d hk pre ws hrt hws _
  obtain ⟨a, b, hab⟩ := render_nth (fun d atStart atEnd r => normRun w d atStart atEnd r) toks.toArray _ 0 k i d hk
  rw [show runStartFrom _ 0 k = runStart _ k from rfl, hrt] at hab
  obtain ⟨body, hb, _⟩ := normRun_indent w d (runStart (ts.flatMap fun t => walkInd toks.toArray t 0) k == 0) pre ws hws
  rw [hb] at hab
  exact ⟨a ++ body, b, by rw [hab]; simp only [indentOf, List.append_assoc]⟩

example : normRun 2 1 false false "x\n\t // c \n    ".toUTF8.toList = "x\n  // c\n  ".toUTF8.toList := by decide +kernel
example : normRun 2 1 false false "  \n\n\n\t-- c \n    ".toUTF8.toList = "\n\n  -- c\n  ".toUTF8.toList := by decide +kernel
example : normRun 2 1 false false "\n\n".toUTF8.toList = "\n\n  ".toUTF8.toList := by decide +kernel   -- blank line stays empty (defect 25)

/-- **C10.fmt_pipeline_known**: the sequence of regular-expression substitutions of `LuaFormatterWriter._get_code_for_spaces`, read from
the syntax tree of lua.py on every run (`Gen.fmtPipelines`: pattern, constant replacement and any further argument — a count, flags — of every `re.sub`, in source order), is the
one `normRun` transcribes: tab → space; CR LF, LF CR, CR → LF; trailing spaces; the comment-leading substitutions for `--` and `//`;
the end-of-input ones; blank-line runs; the final trailing-blank rule. An edit of that list (a pattern widened, two rules merged or
reordered) breaks this obligation at once, whether or not a generated program shows a difference. -/
theorem fmt_pipeline_known : Gen.fmtPipelines = [
  ("LuaFormatterWriter._get_code_for_spaces", [("sub", [92, 116], some [32]),
    ("sub", [92, 114, 92, 110], some [10]),
    ("sub", [92, 110, 92, 114], some [10]),
    ("sub", [92, 114], some [10]),
    ("sub", [32, 43, 92, 110], some [10]),
    ("sub", [94, 32, 42, 45, 45], some [32, 32, 45, 45]),
    ("sub", [92, 110, 32, 42, 40, 45, 45, 124, 47, 47, 41], none),
    ("sub", [94, 32, 42, 40, 45, 45, 124, 47, 47, 41], some [92, 49]),
    ("sub", [92, 110, 32, 42, 92, 90], none),
    ("sub", [94, 32, 42, 92, 90], some []),
    ("sub", [92, 110, 92, 110, 43], some [10, 10]),
    ("sub", [91, 32, 92, 110, 93, 43, 36], none)])] := by rfl

end Pico.C10
