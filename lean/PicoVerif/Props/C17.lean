import PicoVerif.Model.Accessors
import PicoVerif.Lemmas.C17
/-! C17 — section accessors read back what was set and touch nothing else.
Each setter is characterised completely against the plain documented semantics: what every getter
returns afterwards (pixel grid / cell grid / flags / note fields / channel), the frame condition
(every byte not addressed is unchanged), size preservation, and absence of errors in contract. -/
namespace Pico.C17
open Pico.Acc Pico.Sections

/-! ### sprite sheet as a 128x128 pixel grid -/

/-- **C17.set_pixel**: painting one pixel changes that pixel and no other, and keeps the size. -/
theorem set_pixel (gfx : Bytes) (px py : Nat) (v : UInt8) (hl : gfx.length = 0x2000)
    (hx : px < 128) (hy : py < 128) (hv : v < 16) :
    ∃ g', setPixel gfx px py v = .ok g' ∧ g'.length = 0x2000 ∧
      ∀ qx qy, qx < 128 → qy < 128 →
        pixelAt g' qx qy = if qx = px ∧ qy = py then .ok v else pixelAt gfx qx qy :=
  setPixel_spec gfx px py v hl hx hy hv

/-- **C17.set_sprite**: `set_sprite` paints exactly the sprite's non-transparent pixels that fall on the
sheet (clipped at the right and bottom edges: no wrap into another row, no error) and changes nothing else. -/
theorem set_sprite (gfx : Bytes) (id xo yo : Nat) (sprite : List (List Nat)) (hl : gfx.length = 0x2000)
    (hv : ∀ row ∈ sprite, ∀ v ∈ row, v ≤ 16) :
    ∃ g', setSprite gfx id sprite xo yo = .ok g' ∧ g'.length = 0x2000 ∧
      ∀ qx qy, qx < 128 → qy < 128 →
        pixelAt g' qx qy =
          match painted sprite (id % 16 * 8 + xo) (id / 16 * 8 + yo) qx qy with
          | some v => .ok v.toUInt8
          | none => pixelAt gfx qx qy :=
  setSpriteRows_spec (id % 16 * 8 + xo) (id / 16 * 8 + yo) sprite 0 gfx hl hv

/-- the pixel grid determines the sheet: two sheets with the same 128x128 pixels are equal
(so the pixel-wise statements above are frame conditions on bytes too) -/
theorem pixels_determine (g1 g2 : Bytes) (h1 : g1.length = 0x2000) (h2 : g2.length = 0x2000)
    (h : ∀ qx qy, qx < 128 → qy < 128 → pixelAt g1 qx qy = pixelAt g2 qx qy) : g1 = g2 := by
  apply List.ext_getElem (by omega)
  intro i hi1 hi2
  -- byte `i` holds the pixels `2 * (i % 64)` and `2 * (i % 64) + 1` of line `i / 64`
  have nibs : ∀ k, k < 2 → nib g1[i] (2 * (i % 64) + k) = nib g2[i] (2 * (i % 64) + k) := fun k hk => by
    have e : i / 64 * 64 + (2 * (i % 64) + k) / 2 = i := by omega
    have a := h (2 * (i % 64) + k) (i / 64) (by omega) (by omega)
    rw [pixelAt_of_getElem? g1 _ _ g1[i] (by rw [e]; exact List.getElem?_eq_getElem hi1),
      pixelAt_of_getElem? g2 _ _ g2[i] (by rw [e]; exact List.getElem?_eq_getElem hi2)] at a
    exact Except.ok.inj a
  exact byte_eq_of_nibs _ _ (i % 64) (nibs 0 (by omega)) (nibs 1 (by omega))

/-- **C17.get_sprite**: pixel (r, c) of the returned sprite is the sheet pixel, or 0 off the sheet. -/
theorem get_sprite (gfx : Bytes) (id tw th : Nat) (hl : gfx.length = 0x2000) (hid : id ≤ 255)
    (htw : 1 ≤ tw) (hth : 1 ≤ th) :
    ∃ rows, getSprite gfx id tw th = .ok rows ∧ rows.length = 8 * th ∧
      ∀ r, r < 8 * th → ∃ row, rows[r]? = some row ∧ row.length = 8 * tw ∧
        ∀ c, c < 8 * tw →
          (.ok (row.getD c 0) : Except Err UInt8) =
            if id % 16 * 8 + c < 128 ∧ id / 16 * 8 + r < 128 then pixelAt gfx (id % 16 * 8 + c) (id / 16 * 8 + r)
            else .ok 0 := by
  refine ⟨_, getSprite_eq gfx id tw th hl hid htw hth, by simp; omega, fun r hr =>
    ⟨_, by rw [List.getElem?_map, List.getElem?_range (by omega)]; rfl, by simp; omega, fun c hc => ?_⟩⟩
  rw [List.getD_eq_getElem?_getD, List.getElem?_map, List.getElem?_range (by omega), Option.map_some,
    Option.getD_some, ← tile_add (id % 16) c, ← tile_add (id / 16) r]
  split
  next h => rw [pixelAt_eq gfx _ _ hl h.1 h.2, tilePix, if_neg (by omega)]
  next => rw [tilePix, if_pos (by omega)]

/-! ### map: 128x64 cells, rows 32..63 aliased to gfx bytes 0x1000.. -/

/-- **C17.set_cell**: sets that cell; every other cell, and every gfx byte below 0x1000, is unchanged. -/
theorem set_cell (s : MG) (x y v : Nat) (h : MG.WF s) (hx : x ≤ 127) (hy : y ≤ 63) (hv : v ≤ 255) :
    ∃ s', setCell s x y v = .ok s' ∧ MG.WF s' ∧
      (∀ x' y', x' ≤ 127 → y' ≤ 63 →
        getCell s' x' y' = if x' = x ∧ y' = y then .ok v.toUInt8 else getCell s x' y') ∧
      (∀ i, i < 0x1000 → s'.gfx[i]? = s.gfx[i]?) :=
  setCell_spec s x y v h hx hy hv

/-- **C17.set_rect_tiles**: writes exactly the cells of the rectangle that fall on the 128x64 map (clipped,
no error, no other cell altered), sprite pixels above the shared half untouched. -/
theorem set_rect_tiles (s : MG) (x y : Nat) (rect : List (List Nat)) (h : MG.WF s)
    (hv : ∀ row ∈ rect, ∀ v ∈ row, v ≤ 255) :
    ∃ s', setRectTiles x y rect 0 s = .ok s' ∧ MG.WF s' ∧
      (∀ qx qy, qx ≤ 127 → qy ≤ 63 →
        getCell s' qx qy = match rectVal rect x y qx qy with
          | some v => .ok v.toUInt8
          | none => getCell s qx qy) ∧
      (∀ i, i < 0x1000 → s'.gfx[i]? = s.gfx[i]?) :=
  setRectTiles_spec x y rect 0 s h hv

/-- **C17.get_rect_tiles**: cell (qx, qy) of the map, or 0 to the right of the map. -/
theorem get_rect_tiles (s : MG) (x y w h : Nat) (hs : MG.WF s) (hx : x ≤ 127) (hw : 1 ≤ w) (hh : 1 ≤ h)
    (hy : y + h ≤ 64) :
    ∃ rows, getRectTiles s x y w h = .ok rows ∧ rows.length = h ∧
      ∀ r, r < h → ∃ row, rows[r]? = some row ∧ row.length = w ∧
        ∀ c, c < w → (.ok (row.getD c 0) : Except Err UInt8) =
          if x + c ≤ 127 then getCell s (x + c) (y + r) else .ok 0 := by
  refine ⟨_, getRectTiles_eq s x y w h hs hx hw hh hy, by simp, fun r hr =>
    ⟨_, by rw [List.getElem?_map, List.getElem?_range hr]; rfl, by simp, fun c hc => ?_⟩⟩
  rw [List.getD_eq_getElem?_getD, List.getElem?_map, List.getElem?_range hc, Option.map_some, Option.getD_some]
  split
  · rw [getCell_eq s _ _ hs ‹_› (by omega)]
  · rfl

/-- **C17.flags**: set / clear / reset act bitwise on that sprite's flag byte only. -/
theorem flags (gff : Bytes) (id fl : Nat) (h : gff.length = 0x100) (hid : id ≤ 255) :
    ∃ b, gff[id]? = some b ∧
      setFlags gff id fl = .ok (gff.set id (b ||| (fl % 256).toUInt8)) ∧
      clearFlags gff id fl = .ok (gff.set id (b &&& ~~~ (fl % 256).toUInt8)) ∧
      resetFlags gff id fl = .ok (gff.set id (fl % 256).toUInt8) ∧
      getFlags gff id fl = .ok (b.toNat &&& fl) := by
  have hlt : id < gff.length := by omega
  have hn : ¬ id > 255 := by omega
  refine ⟨gff[id], List.getElem?_eq_getElem hlt, ?_⟩
  simp only [setFlags, clearFlags, resetFlags, getFlags, if_neg hn, getAt_ok _ _ hlt, ok_bind, setAt_ok _ _ _ hlt,
    true_and]
  rfl

/-- **C17.set_note**: after `set_note` the note reads back with the given fields replaced and the others kept;
only the note's two bytes may change. -/
theorem set_note (sfx : Bytes) (id note : Nat) (p w v e : Option Nat) (h : sfx.length = 0x1100)
    (hid : id ≤ 63) (hn : note ≤ 31) (hp : p.getD 0 ≤ 63) (hw : w.getD 0 ≤ 15) (hv : v.getD 0 ≤ 7) (he : e.getD 0 ≤ 7) :
    ∃ s' old, sfxSetNote sfx id note p w v e = .ok s' ∧ s'.length = 0x1100 ∧
      sfxGetNote sfx id note = .ok old ∧
      sfxGetNote s' id note = .ok ((p.map (·.toUInt8)).getD old.1, (w.map (·.toUInt8)).getD old.2.1,
                                   (v.map (·.toUInt8)).getD old.2.2.1, (e.map (·.toUInt8)).getD old.2.2.2) ∧
      ∀ i, i ≠ id * 68 + note * 2 → i ≠ id * 68 + note * 2 + 1 → s'[i]? = sfx[i]? := by
  have g0 := getAt_eq_getD sfx (id * 68 + note * 2) (by omega)
  have g1 := getAt_eq_getD sfx (id * 68 + note * 2 + 1) (by omega)
  refine ⟨_, getNote (sfx.getD (id * 68 + note * 2) 0) (sfx.getD (id * 68 + note * 2 + 1) 0),
    sfxSetNote_eq sfx id note p w v e (by omega) hp hw hv he, by simpa using h, ?_, ?_, fun i hi0 hi1 => ?_⟩
  · simp only [sfxGetNote, g0, g1]; rfl
  · simp only [sfxGetNote, getAt_modify, g0, g1, Nat.left_eq_add, Nat.add_eq_left, Nat.one_ne_zero, ↓reduceIte]
    show Except.ok (getNote _ _) = _
    rw [getNote_setE he, getNote_setV hv, getNote_setW hw, getNote_setP hp]
  · rw [List.getElem?_modify_ne _ _ (Ne.symm hi1), List.getElem?_modify_ne _ _ (Ne.symm hi0)]

/-- **C17.set_props**: the four header bytes of a pattern. -/
theorem set_props (sfx : Bytes) (id : Nat) (a b c d : Option Nat) (h : sfx.length = 0x1100) (hid : id ≤ 63)
    (ha : a.getD 0 ≤ 255) (hb : b.getD 0 ≤ 255) (hc : c.getD 0 ≤ 255) (hd : d.getD 0 ≤ 255) :
    ∃ s' old, sfxSetProps sfx id a b c d = .ok s' ∧ s'.length = 0x1100 ∧
      sfxGetProps sfx id = .ok old ∧
      sfxGetProps s' id = .ok ((a.map (·.toUInt8)).getD old.1, (b.map (·.toUInt8)).getD old.2.1,
                               (c.map (·.toUInt8)).getD old.2.2.1, (d.map (·.toUInt8)).getD old.2.2.2) ∧
      ∀ i, (i < id * 68 + 64 ∨ i > id * 68 + 67) → s'[i]? = sfx[i]? := by
  have g := fun k (hk : k ≤ 67) => getAt_eq_getD sfx (id * 68 + k) (by omega)
  refine ⟨_, (sfx.getD (id * 68 + 64) 0, sfx.getD (id * 68 + 65) 0, sfx.getD (id * 68 + 66) 0,
      sfx.getD (id * 68 + 67) 0), sfxSetProps_eq sfx id a b c d (by omega) ha hb hc hd,
    by simp only [List.length_modify, h], ?_, ?_, fun i hi => ?_⟩
  · simp only [sfxGetProps, g, Nat.reduceLeDiff]; rfl
  · simp only [sfxGetProps, getAt_modify, g, Nat.reduceLeDiff, Nat.add_left_cancel_iff, Nat.reduceEqDiff, ↓reduceIte]
    rfl
  · rw [List.getElem?_modify_ne _ _ (by omega), List.getElem?_modify_ne _ _ (by omega),
      List.getElem?_modify_ne _ _ (by omega), List.getElem?_modify_ne _ _ (by omega)]

/-- **C17.set_channel**: the channel reads back; the pattern's loop flag in that byte and all other bytes are kept. -/
theorem set_channel (mus : Bytes) (id ch : Nat) (pat : Option Nat) (h : mus.length = 0x100) (hid : id ≤ 63)
    (hch : ch ≤ 3) (hp : pat.getD 0 ≤ 63) :
    ∃ m' b, musSetChannel mus id ch pat = .ok m' ∧ m'.length = 0x100 ∧ mus[id * 4 + ch]? = some b ∧
      musGetChannel m' id ch = .ok pat ∧
      (m'.getD (id * 4 + ch) 0) &&& 0x80 = b &&& 0x80 ∧
      ∀ i, i ≠ id * 4 + ch → m'[i]? = mus[i]? := by
  have hlt : id * 4 + ch < mus.length := by omega
  -- the number stored: the pattern, or the silence marker 0x41 + ch
  have hq : pat.getD (0x40 + ch + 1) < 70 ∧
      (if pat.getD (0x40 + ch + 1) > 63 then none else some (pat.getD (0x40 + ch + 1))) = pat := by
    cases pat with
    | none => exact ⟨by simp; omega, if_pos (by simp; omega)⟩
    | some p => exact ⟨by simp at hp ⊢; omega, if_neg (by simpa using hp)⟩
  obtain ⟨g1, g2⟩ := chan_get mus[id * 4 + ch] (pat.getD (0x40 + ch + 1)) (by omega)
  refine ⟨mus.set (id * 4 + ch) ((mus[id * 4 + ch] &&& 0x80) ||| (pat.getD (0x40 + ch + 1)).toUInt8),
    mus[id * 4 + ch], ?_, by simpa using h, List.getElem?_eq_getElem hlt, ?_, ?_,
    fun i hi => List.getElem?_set_ne (Ne.symm hi)⟩
  · simp only [musSetChannel, if_neg (show ¬ (id > 63 ∨ ch > 3 ∨ pat.getD 0 > 63) by omega), getAt_ok _ _ hlt,
      ok_bind]
    cases pat <;> exact setAt_ok _ _ _ hlt
  · simp only [musGetChannel, if_neg (show ¬ (id > 63 ∨ ch > 3) by omega),
      getAt_of_getElem? _ _ _ (List.getElem?_set_self hlt), ok_bind, g1, hq.2]
    rfl
  · simp only [List.getD_eq_getElem?_getD, List.getElem?_set_self hlt, Option.getD_some, g2]

/-- **C17.set_music_props**: flags read back; channel numbers (low 7 bits) and all other bytes are kept. -/
theorem set_music_props (mus : Bytes) (id : Nat) (bg en st : Option Bool) (h : mus.length = 0x100) (hid : id ≤ 63) :
    ∃ m' old, musSetProps mus id bg en st = .ok m' ∧ m'.length = 0x100 ∧
      musGetProps mus id = .ok old ∧
      musGetProps m' id = .ok (bg.getD old.1, en.getD old.2.1, st.getD old.2.2) ∧
      (∀ i, i < 0x100 → (m'.getD i 0) &&& 0x7f = (mus.getD i 0) &&& 0x7f) ∧
      ∀ i, (i < id * 4 ∨ i > id * 4 + 2) → m'[i]? = mus[i]? := by
  have g0 := getAt_eq_getD mus (id * 4) (by omega)
  have g1 := getAt_eq_getD mus (id * 4 + 1) (by omega)
  have g2 := getAt_eq_getD mus (id * 4 + 2) (by omega)
  have hid' : ¬ id > 63 := by omega
  refine ⟨_, (decide ((mus.getD (id * 4) 0 &&& 0x80) > 0), decide ((mus.getD (id * 4 + 1) 0 &&& 0x80) > 0),
      decide ((mus.getD (id * 4 + 2) 0 &&& 0x80) > 0)), musSetProps_eq mus id bg en st (by omega),
    by simp only [List.length_modify, h], ?_, ?_, fun i _ => ?_, fun i hi => ?_⟩
  · simp only [musGetProps, if_neg hid', g0, g1, g2]; rfl
  · simp only [musGetProps, if_neg hid', getAt_modify, g0, g1, g2, Nat.add_left_cancel_iff, Nat.left_eq_add,
      Nat.add_eq_left, Nat.reduceEqDiff, Nat.succ_ne_self, ↓reduceIte]
    rw [← hiSet_flag, ← hiSet_flag, ← hiSet_flag]
    rfl
  · rw [getD_modify_congr (· &&& 0x7f) _ (hiSet_low · st), getD_modify_congr (· &&& 0x7f) _ (hiSet_low · en),
      getD_modify_congr (· &&& 0x7f) _ (hiSet_low · bg)]
  · rw [List.getElem?_modify_ne _ _ (by omega), List.getElem?_modify_ne _ _ (by omega),
      List.getElem?_modify_ne _ _ (by omega)]

end Pico.C17
