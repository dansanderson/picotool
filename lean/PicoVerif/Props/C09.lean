import PicoVerif.Model.AstWriters
import PicoVerif.Lemmas.C09
/-! C09 — luafmt changes only whitespace and never drops code.
The theorems say what a tree-driven writer writes when it succeeds (`whole_output`, `output_shape`), that it fails rather
than write a shortened program (`no_silent_loss`), and that it succeeds exactly when picotool's parser consumed the
program to its last significant token (`writer_succeeds_iff`).
PARTIAL: "the parser accepts every program of the dialect" (C08) is correspondence-tested, not proved. -/
namespace Pico.C09
open Pico.Ast Pico.Lex Pico.Peg

def isWs (b : UInt8) : Bool := b == 32 || b == 9 || b == 13 || b == 10
def stripWs (s : Bytes) : Bytes := s.filter (fun b => !isWs b)

/-- **C09.only_whitespace**: the formatter's rendering of a run of space/newline/comment tokens differs from the
run's text only in whitespace characters (comments are kept, up to whitespace inside them). -/
theorem only_whitespace (w d : Nat) (s e : Bool) (r : Bytes) : stripWs (normRun w d s e r) = stripWs r :=
  blindBrk_strip.normRun w d s e r

/-- **C09.line_breaks_kept**: a rendered run contains a line break iff the run did — so a short-if body stays on the
`if` line, what followed it stays on a later line, and an end-of-line comment cannot swallow code. -/
theorem line_breaks_kept (w d : Nat) (s e : Bool) (r : Bytes) :
    (normRun w d s e r).contains 10 = (r.contains 10 || r.contains 13) := by
  rw [blind_lf.normRun_tail, normBreaks, contains_subCR]
  exact (blindBrk_lineBreak.subLFCR _).trans ((blindBrk_lineBreak.subCRLF _).trans (blindBrk_lineBreak.subTab r))

/-- the output of a successful `assemble`: rendered runs interleaved with the codes of the walked tokens -/
def Interleaved (fmt : RunFmt) (toks : Array Tok) : List (Nat × Nat) → Nat → Bytes → Prop
  | [], pos, out => out = fmt 0 (pos == 0) true (runText toks pos toks.size)
  | (i, d) :: rest, pos, out =>
    ∃ tail, out = fmt d (pos == 0) false (runText toks pos i) ++ (toks.getD i default).code ++ tail ∧
      Interleaved fmt toks rest (i + 1) tail

theorem interleaved_iff (fmt : RunFmt) (toks : Array Tok) (walk : List (Nat × Nat)) (pos : Nat) (out : Bytes) :
    Interleaved fmt toks walk pos out ↔ out = render fmt toks walk pos := by
  induction walk generalizing pos out with
  | nil => exact Iff.rfl
  | cons x rest ih =>
    obtain ⟨i, d⟩ := x
    simp only [Interleaved, render]
    exact ⟨fun ⟨tail, h1, h2⟩ => by rw [h1, (ih _ _).1 h2], fun h => ⟨_, h, (ih _ _).2 rfl⟩⟩

/-- **C09.assemble_interleaved**: the interleaving part of `output_shape` (holds for every successful `assemble`) -/
theorem assemble_interleaved (fmt : RunFmt) (toks : Array Tok) (walk : List (Nat × Nat)) (pos : Nat) (acc out : Bytes)
    (h : assemble fmt toks walk pos acc = .ok out) :
    ∃ tail, out = acc ++ tail ∧ Interleaved fmt toks walk pos tail :=
  ⟨_, ((assemble_ok_iff ..).1 h).2, (interleaved_iff ..).2 rfl⟩

/-- **C09.output_shape**: whatever run renderer is used, a successful write is, token for token, the walked tokens'
codes in stream order, each preceded by the rendering of exactly the trivia tokens in front of it, with nothing else in
between; the walked tokens are consecutive significant tokens and none is left at the end.  (Hypothesis `hsig`: every
walked token is significant — `assemble` does not check that; for the walk of a parser tree it follows from
`walk_is_leaves` and C08.cover. Without it the statement is false: see the example below.) -/
theorem output_shape (fmt : RunFmt) (toks : Array Tok) (walk : List (Nat × Nat)) (pos : Nat) (acc out : Bytes)
    (hsig : ∀ i ∈ walk.map (·.1), (toks.getD i default).trivia = false)
    (h : assemble fmt toks walk pos acc = .ok out) :
    ∃ tail, out = acc ++ tail ∧ Interleaved fmt toks walk pos tail ∧
      (walk.map (·.1)) = sigIdx toks pos ((walk.map (·.1)).getLast?.map (· + 1) |>.getD pos) ∧
      skipTrivia toks ((walk.map (·.1)).getLast?.map (· + 1) |>.getD pos) ≥ toks.size := by
  obtain ⟨hc, ho⟩ := (assemble_ok_iff ..).1 h
  obtain ⟨h1, h2⟩ := hc.end_trivia
  refine ⟨_, ho, (interleaved_iff ..).2 rfl, ?_, h2⟩
  show _ = sigIdx toks pos (walkEnd (walk.map (·.1)) pos)
  rw [sigIdx_to_size toks pos _ h1 h2, ← hc.filter_sig, List.filter_eq_self.2]
  intro i hi
  rw [hsig i hi]; rfl

/-- why `output_shape` needs that hypothesis: a walk that names a trivia token is assembled without complaint -/
example : (match assemble (fun _ _ _ r => r) #[{ kind := .space, data := [32] }] [(0, 0)] 0 [] with
    | .ok _ => true | .error _ => false) = true ∧
    [(0, 0)].map (·.1) ≠ sigIdx #[({ kind := .space, data := [32] } : Tok)] 0 1 := by decide +kernel

/-- **C09.no_silent_loss**: if the tokens the writer walks stop before the last significant token of the stream —
picotool could not parse the code to its end — the writer fails instead of writing a shortened program. -/
theorem no_silent_loss (fmt : RunFmt) (toks : Array Tok) (walk : List (Nat × Nat)) (pos : Nat) (acc : Bytes) (j : Nat)
    (hj : j < toks.size) (hsig : (toks.getD j default).trivia = false)
    (hafter : ∀ i ∈ walk.map (·.1), i < j) (hpos : pos ≤ j) :
    ∃ e, assemble fmt toks walk pos acc = .error e := by
  cases h : assemble fmt toks walk pos acc with
  | error e => exact ⟨e, rfl⟩
  | ok out =>
    rw [← Array.getElem_eq_getD (h := hj) default] at hsig
    have hm := ((assemble_ok_iff ..).1 h).1.mem_of_sig hpos ((sig_iff toks j).2 ⟨hj, hsig⟩)
    exact absurd (hafter j hm) (Nat.lt_irrefl j)

/-- **C09.walk_is_leaves**: the indent walk visits exactly the leaves of the tree, in order (so with C08.cover: exactly
the significant tokens the parser consumed). -/
theorem walk_is_leaves (toks : Array Tok) (t : Tree) (d : Nat) : (walkInd toks t d).map (·.1) = t.leaves :=
  walkInd_fst toks t d

/-- **C09.writer_succeeds_iff**: a tree-driven writer (ASTEcho, luafmt at any width — any run renderer) succeeds exactly
when picotool's parser accepts the token list and consumes it to its last significant token; so on every program the
parser accepts completely the formatter does produce output (`no_silent_loss` is the other half: it never produces
output for less). -/
theorem writer_succeeds_iff (fmt : RunFmt) (toks : List Tok) :
    (∃ out, astWrite fmt toks = .ok out) ↔
      ∃ ts st', Peg.run Gram.gram toks.toArray (50 * toks.toArray.size + 200) (.nt Gram.nChunk) { pos := 0, maxPos := none } = .ok (some (ts, st')) ∧
        skipTrivia toks.toArray st'.pos ≥ toks.toArray.size := by
  constructor
  · rintro ⟨out, h⟩
    obtain ⟨ts, st', hrun, hend, _⟩ := (astWrite_ok_iff fmt toks out).1 h
    exact ⟨ts, st', hrun, hend⟩
  · rintro ⟨ts, st', hrun, hend⟩
    exact ⟨_, (astWrite_ok_iff fmt toks _).2 ⟨ts, st', hrun, hend, rfl⟩⟩

/-- **C09.whole_output**: the whole text a successful writer returns is the interleaving, in stream order, of every
significant token's code with the rendering of the trivia run in front of it, followed by the rendering of the final
run — for the walk of the parser's tree, without further hypotheses. -/
theorem whole_output (fmt : RunFmt) (toks : List Tok) (out : Bytes) (h : astWrite fmt toks = .ok out) :
    ∃ walk, walk.map (·.1) = sigIdx toks.toArray 0 toks.toArray.size ∧ Interleaved fmt toks.toArray walk 0 out := by
  obtain ⟨ts, st', hrun, hend, rfl⟩ := (astWrite_ok_iff fmt toks out).1 h
  exact ⟨_, by rw [walk_of_run hrun, sigIdx_to_size _ 0 _ (Nat.zero_le _) hend], (interleaved_iff ..).2 rfl⟩

def okIs (r : Except Err Bytes) (b : Bytes) : Bool := match r with | .ok x => x == b | .error _ => false
def isParseErr (r : Except Err Bytes) : Bool := match r with | .error .parse => true | _ => false

/-- **C09.degenerate**: the empty program, a comment-only program and a program without a final newline are written. -/
example : okIs (luafmt 2 []) [] = true := by decide +kernel
example : okIs (luafmt 2 [{ kind := .comment, data := [45, 45, 99] }]) [45, 45, 99] = true := by decide +kernel
example : okIs (luafmt 2 [{ kind := .name, data := [97] }, { kind := .symbol, data := [61] }, { kind := .number, data := [49] }])
    [97, 61, 49] = true := by decide +kernel
/-- `a=b=c`: the parser stops after `a=b`; the writer reports a parse error instead of writing `a=b` -/
example : isParseErr (luafmt 2 [{ kind := .name, data := [97] }, { kind := .symbol, data := [61] }, { kind := .name, data := [98] },
    { kind := .symbol, data := [61] }, { kind := .name, data := [99] }]) = true := by decide +kernel

end Pico.C09
