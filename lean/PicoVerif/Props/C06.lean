import PicoVerif.Lemmas.C06
/-! C06 — the default writer echoes the source losslessly. -/
namespace Pico.C06
open Pico.Lex Pico.Wr

/-- every regenerated matcher entry is one the model knows (an edited or new pattern breaks this) -/
theorem shape_known : Gen.matcherShape.all entryKnown = true := by decide +kernel

/-- **C06.cover**: the token list covers the source completely — the source is the concatenation of the
tokens' source texts, nothing dropped or duplicated — each token records the (line, column) of its first
character, and outside quoted strings the echo writer's text for the token *is* that source text. -/
theorem cover (src : Bytes) (toks : List Tok) (h : lex [src] = .ok toks) :
    ∃ raws : List Bytes, raws.length = toks.length ∧ raws.flatten = src ∧
      ∀ i (hi : i < toks.length), RawOf toks[i] (raws.getD i []) ∧
        (toks[i].line, toks[i].col) = Spec.Lex.posAfter 0 0 (raws.take i).flatten :=
  LexL.lex_cover RawOf
    (fun s k n _ _ _ hmo _ => C06L.rawOf_nonstring _ fun hk => by subst hk; exact LexL.matchOne_ne_string hmo)
    C06L.scan_raw src toks h

/-- **C06.reescape**: the spelling the echo writer produces for a quoted string denotes exactly the
token's bytes under the reference string grammar, and ends at its closing quote whatever follows. -/
theorem reescape (q : UInt8) (hq : q = 34 ∨ q = 39) (v next : Bytes) (fuel : Nat)
    (hf : (escapeBody q v).length + 1 ≤ fuel) :
    Spec.Lex.quoted q fuel (escapeBody q v ++ q :: next) [] 0 = some (v, (escapeBody q v).length + 1) := by
  simpa using C06L.reescape_gen q hq next v [] 0 fuel hf

/-- **C06.decode_agrees**: on every string body of the dialect the lexer's string loop computes the
reference grammar's value (same bytes, same extent). -/
theorem decode_agrees (q : UInt8) (s v : Bytes) (n fuel fuel' : Nat)
    (h : Spec.Lex.quoted q fuel s [] 0 = some (v, n)) (hf : s.length + 1 ≤ fuel') :
    strLoop q fuel' s [] 0 = .ok (true, v, n) :=
  (LexL.strLoop_fuel q fuel' _ s [] 0 hf (Nat.le_refl _)).trans (C06L.decode_agrees_gen q v n fuel s [] 0 h)

/-- **C06.echo_stable**: echoing is idempotent on tokens — the echoed spelling of a quoted string, read
again by the lexer's string loop, yields the same data (so write/read cycles do not drift). -/
theorem echo_stable (q : UInt8) (hq : q = 34 ∨ q = 39) (v next : Bytes) :
    strLoop q ((escapeBody q v).length + next.length + 2) (escapeBody q v ++ q :: next) [] 0
      = .ok (true, v, (escapeBody q v).length + 1) :=
  decode_agrees q _ v _ _ _ (reescape q hq v next _ (Nat.le_refl _)) (by simp; omega)

/-- the inputs of defects 10 and 11 (DESIGN §6): `"\0001"`, `"\x41"` -/
example : escapeBody 34 [0, 49] = "\\0001".toUTF8.toList := by decide +kernel
example : Spec.Lex.quoted 34 9 "\\x41\"".toUTF8.toList [] 0 = some ([65], 5) := by decide +kernel

end Pico.C06
