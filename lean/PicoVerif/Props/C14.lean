import PicoVerif.Model.Require
import PicoVerif.Model.ReqWalk
import PicoVerif.Lemmas.C14
import PicoVerif.Lemmas.C14b
import PicoVerif.Lemmas.Basic
/-! C14 — build embeds each require()d package once and leaves all code intact.
The extraction of `require(...)` calls from a file's tree, the file lookup and the re-lexing of a stripped package are
parameters of the first part (`World`, the package bodies); the second part makes them concrete. The whole is tied to the code by the
correspondence (real builds of random package graphs, compared token for token). -/
namespace Pico.C14
open Pico.Req Pico.Inc

def names (pkgs : List Pkg) : List Bytes := pkgs.map (·.name)

/-- **C14.once**: however packages require each other (shared packages, cycles, self-requires), every name is
registered at most once, and packages already registered keep their place and content. -/
theorem once (w : World) (fuel : Nat) (calls : List Call) (cur : Nat) (pkgs pkgs' : List Pkg)
    (h : evalCalls w fuel calls cur pkgs = .ok pkgs') (hn : (names pkgs).Nodup) :
    (names pkgs').Nodup ∧ pkgs <+: pkgs' :=
  ⟨(Eval.of_ok h).inv.once hn, (Eval.of_ok h).inv.inPlace⟩

/-- **C14.all_registered**: after a successful evaluation every required name is in the package table. -/
theorem all_registered (w : World) (fuel : Nat) (calls : List Call) (cur : Nat) (pkgs pkgs' : List Pkg)
    (h : evalCalls w fuel calls cur pkgs = .ok pkgs') :
    ∀ p ugl, (.ok (p, ugl) : Call) ∈ calls → p ∈ names pkgs' :=
  (Eval.of_ok h).inv.registered

/-- **C14.registered_from_lookup**: every package added was found by the lookup for the file that required it and
its own require() calls were evaluated with the game-loop choice of the first require that named it. -/
theorem registered_from_lookup (w : World) (fuel : Nat) (calls : List Call) (cur : Nat) (pkgs pkgs' : List Pkg)
    (h : evalCalls w fuel calls cur pkgs = .ok pkgs') :
    ∀ q ∈ pkgs', q ∈ pkgs ∨ ∃ from_, w.locate q.name from_ = some q.file :=
  (Eval.of_ok h).inv.located

/-- **C14.arg_error_fails**: a require() with unusable arguments fails the build once it is reached. -/
theorem arg_error_fails (w : World) (fuel : Nat) (pre post : List Call) (e : Err) (cur : Nat) (pkgs mid : List Pkg)
    (hpre : evalCalls w fuel pre cur pkgs = .ok mid) (hf : fuel ≠ 0) :
    ∃ e', evalCalls w fuel (pre ++ (.error e : Call) :: post) cur pkgs = .error e' := by
  clear hf -- unused (`hpre` excludes fuel 0) and in the way of the induction
  fun_induction evalCalls w fuel pre cur pkgs generalizing mid with
  | case1 | case3 | case4 | case6 | case7 => cases hpre
  | case2 => exact ⟨e, by rw [List.nil_append, evalCalls]⟩
  | case5 fuel rest cur pkgs p ugl hr ha ih =>
    rw [List.cons_append, evalCalls, if_neg hr, if_pos ha]; exact ih _ hpre
  | case8 fuel rest cur pkgs p ugl hr ha f hl mid' hm _ ih2 =>
    rw [List.cons_append, evalCalls, if_neg hr, if_neg ha]
    simp only [hl, hm]; exact ih2 _ hpre

/-- **C14.missing_file_fails**: a require() of a new name whose file cannot be found fails the build. -/
theorem missing_file_fails (w : World) (fuel : Nat) (p : Bytes) (ugl : Bool) (rest : List Call) (cur : Nat) (pkgs : List Pkg)
    (hnew : p ∉ names pkgs) (hloc : w.locate p cur = none) :
    ∃ e, evalCalls w fuel ((.ok (p, ugl) : Call) :: rest) cur pkgs = .error e := by
  cases fuel with
  | zero => exact ⟨_, by rw [evalCalls]⟩
  | succ f =>
    rw [evalCalls, if_neg (mt (any_name_true_iff _ _).1 hnew), hloc]
    split <;> exact ⟨_, rfl⟩

/-- **C14.fuel_irrelevant**: the result does not depend on the fuel once it suffices (the real recursion terminates
because a package is registered before its own require() calls are evaluated). -/
theorem fuel_irrelevant (w : World) (fuel : Nat) (calls : List Call) (cur : Nat) (pkgs pkgs' : List Pkg)
    (h : evalCalls w fuel calls cur pkgs = .ok pkgs') (k : Nat) :
    evalCalls w (fuel + k) calls cur pkgs = .ok pkgs' := by
  fun_induction evalCalls w fuel calls cur pkgs generalizing pkgs' with
  | case1 | case3 | case4 | case6 | case7 => cases h
  | case2 => rw [Nat.succ_add, evalCalls]; exact h
  | case5 fuel rest cur pkgs p ugl hr ha ih =>
    rw [Nat.succ_add, evalCalls, if_neg hr, if_pos ha]; exact ih _ h
  | case8 fuel rest cur pkgs p ugl hr ha f hl mid hm ih1 ih2 =>
    rw [Nat.succ_add, evalCalls, if_neg hr, if_neg ha]
    simp only [hl, ih1 _ hm]; exact ih2 _ h

/-- **C14.main_unchanged**: the built code ends with the main program's code, unchanged; without packages it *is* it. -/
theorem main_unchanged (pkgs : List (Bytes × Bytes)) (main : Bytes) :
    (∃ pre, assembleCode pkgs main = pre ++ main) ∧ (pkgs = [] → assembleCode pkgs main = main) := by
  constructor
  · unfold assembleCode
    split
    · exact ⟨[], rfl⟩
    · exact ⟨_, rfl⟩
  · intro h
    subst h
    rfl

/-- **C14.assembly**: with packages the built code is the package-table preamble, one block per package in
registration order, the loader, then the main code. -/
theorem assembly (pkgs : List (Bytes × Bytes)) (main : Bytes) (h : pkgs ≠ []) :
    assembleCode pkgs main =
      Gen.requirePreamblePackage.flatten ++ pkgs.flatMap (fun p => pkgBlock p.1 p.2) ++ Gen.requirePreambleRequire.flatten ++ main := by
  unfold assembleCode
  rw [if_neg]
  cases pkgs with
  | nil => exact absurd rfl h
  | cons a t => simp

/-- **C14.block_separated**: a package's code sits between its header line and a closing `end` line, and is always
separated from that `end` by a line feed (a package without a final newline cannot fuse with it). -/
theorem block_separated (name body : Bytes) :
    ∃ b', pkgBlock name body = "package._c[\"".toUTF8.toList ++ quote name ++ "\"]=function()\n".toUTF8.toList ++ b' ++ "end\n".toUTF8.toList ∧
      (b' = [] ∨ b'.getLast? = some 10) ∧ (body <+: b') := by
  unfold pkgBlock
  refine ⟨_, rfl, ?_, ?_⟩
  · split
    · rename_i hc
      exact hc.imp List.isEmpty_iff.1 id
    · exact .inr (by simp)
  · split
    · exact List.prefix_refl _
    · exact List.prefix_append _ _

/-- **C14.strip_keeps_the_rest**: removing the token ranges of the stripped statements keeps every other token, once,
in order. -/
theorem strip_keeps_the_rest {α : Type} (toks : List α) (s e : Nat) (rest : List (Nat × Nat)) (pos : Nat)
    (h1 : pos ≤ s) (h2 : s ≤ e) :
    dropRanges toks ((s, e) :: rest) pos = (toks.take s).drop pos ++ dropRanges toks rest e ∧
    dropRanges toks [] pos = toks.drop pos :=
  ⟨rfl, rfl⟩

/-- **C14.strip_decision**: a top-level function statement of a package is stripped exactly when it is a plain
`function NAME(...)` (single-name path, no method) and NAME is `_init`, `_update`, `_update60` or `_draw` — names that
merely begin with or contain one of these are kept.  (The names are written out as bytes: the statement does not
depend on the regenerated table, so a change of `GAME_LOOP_FUNCTION_NAMES` breaks this theorem.) -/
theorem strip_decision (np : List Bytes) (m : Option Bytes) :
    stripsStat np m = true ↔
      m = none ∧ ∃ n, np = [n] ∧
        (n = [95, 105, 110, 105, 116] ∨ n = [95, 117, 112, 100, 97, 116, 101] ∨
         n = [95, 117, 112, 100, 97, 116, 101, 54, 48] ∨ n = [95, 100, 114, 97, 119]) := by
  fun_cases stripsStat np m
  · simp [Gen.gameLoopNames]
  · rename_i h
    exact ⟨nofun, fun ⟨hm, n, hn, _⟩ => (h n hn hm).elim⟩

example : stripsStat ["_update60".toUTF8.toList] none = true ∧ stripsStat ["_update_hud".toUTF8.toList] none = false ∧
    stripsStat ["m".toUTF8.toList, "_init".toUTF8.toList] none = false ∧
    stripsStat ["_draw".toUTF8.toList] (some "x".toUTF8.toList) = false := by decide +kernel

example : (match evalCalls { locate := fun p _ => if p == [97] then some 1 else if p == [98] then some 2 else none,
                             callsOf := fun f _ => if f == 0 then [.ok ([97], false), .ok ([98], false), .ok ([97], true)]
                                                   else if f == 1 then [.ok ([98], false)] else [.ok ([97], false)] }
                           20 [.ok ([97], false), .ok ([98], false), .ok ([97], true)] 0 [] with
    | .ok pk => pk.map (·.name) == [[97], [98]] | .error _ => false) = true := by decide +kernel

/-! ### Second part — the parameters made concrete
Discovery of `require()` calls in a parsed file (`RequireWalker`), the stripping decision and token ranges, and the
composition with lexer, parser, lookup and assembly into the whole code transformation of `p8tool build --lua main.lua`
(`ReqWalk.buildLua`, compared byte for byte with real builds by the correspondence). -/
section concrete
open Pico.Lex Pico.Peg Pico.Gram Pico.ReqWalk

/-- **C14.walk_reports_all**: the walker reports the `require(...)` calls of a tree in source order — every outermost
one, validated — up to and including the first one with unusable arguments (where it raises). -/
theorem walk_reports_all (toks : Array Tok) (t : Tree) :
    walk toks t = throughFirstError ((reqNodes toks t).map (callOf toks)) :=
  walk_eq toks t

/-- **C14.call_accepted_iff**: a `require` call is accepted exactly when it has a parenthesised argument list of one
string literal, or of a string literal and the option table `{use_game_loop=<true|false>}`; then the reported path is
the literal's value and the reported option is the table's (default false). -/
theorem call_accepted_iff (toks : Array Tok) (args : List Tree) (p : Bytes) (b : Bool) :
    callOf toks args = .ok (p, b) ↔
      ∃ s e acs s2 e2 es, args = [.node kFunctionArgs s e acs] ∧ acs.filter isNode = [.node kExpList s2 e2 es] ∧
        ((∃ a, es.filter isNode = [a] ∧ stringOf toks a = some p ∧ b = false) ∨
         (∃ a o, es.filter isNode = [a, o] ∧ stringOf toks a = some p ∧ optionOf toks o = some b)) := by
  constructor
  · fun_cases callOf toks args <;> intro h
    case case4 k s e acs hk ke s2 e2 es hacs hke a hes p' hp =>
      cases h
      obtain rfl : k = kFunctionArgs := by simpa using hk
      obtain rfl : ke = kExpList := by simpa using hke
      exact ⟨s, e, acs, s2, e2, es, rfl, hacs, .inl ⟨a, hes, hp, rfl⟩⟩
    case case6 k s e acs hk ke s2 e2 es hacs hke a o hes p' b' hb hp =>
      cases h
      obtain rfl : k = kFunctionArgs := by simpa using hk
      obtain rfl : ke = kExpList := by simpa using hke
      exact ⟨s, e, acs, s2, e2, es, rfl, hacs, .inr ⟨a, o, hes, hp, hb⟩⟩
    all_goals cases h
  · rintro ⟨s, e, acs, s2, e2, es, rfl, hacs, h⟩
    unfold callOf
    simp only [bne_self_eq_false, Bool.false_eq_true, if_false, hacs]
    rcases h with ⟨a, hes, hp, rfl⟩ | ⟨a, o, hes, hp, hb⟩
    · simp only [hes, hp]
    · simp only [hes, hp, hb]

/-- **C14.bad_call_is_error**: every other argument shape is an error entry (which `arg_error_fails` turns into a
failed build). -/
theorem bad_call_is_error (toks : Array Tok) (args : List Tree) :
    (∃ p b, callOf toks args = .ok (p, b)) ∨ callOf toks args = .error .build := by
  fun_cases callOf toks args
  case case4 | case6 => exact .inl ⟨_, _, rfl⟩
  all_goals exact .inr rfl

/-- **C14.strip_ranges**: the token ranges removed from a package are exactly the spans of its top-level
`function NAME(...)` statements for which `stripsStat` holds, in source order. -/
theorem strip_ranges (toks : Array Tok) (s0 e0 : Nat) (cs : List Tree) (s e : Nat) :
    (s, e) ∈ stripRanges toks [.node kChunk s0 e0 cs] ↔
      ∃ kwLeaf fn rest np m, Tree.node kStatFunction s e (.leaf kwLeaf :: fn :: rest) ∈ cs ∧
        funcNameParts toks fn = some (np, m) ∧ stripsStat np m = true := by
  unfold stripRanges
  simp only [bne_self_eq_false, Bool.false_eq_true, if_false, List.mem_filterMap]
  constructor
  · rintro ⟨t, ht, h⟩
    split at h
    · rename_i ks s' e' kwLeaf fn rest
      cases hf : funcNameParts toks fn with
      | none => simp [hf] at h
      | some r =>
        obtain ⟨np, m⟩ := r
        simp only [hf, Option.ite_none_right_eq_some, beq_iff_eq, Option.some.injEq, Prod.mk.injEq] at h
        obtain ⟨rfl, hst, rfl, rfl⟩ := h
        exact ⟨kwLeaf, fn, rest, np, m, ht, hf, hst⟩
    · cases h
  · rintro ⟨kwLeaf, fn, rest, np, m, ht, hf, hst⟩
    refine ⟨_, ht, ?_⟩
    simp only [beq_self_eq_true, if_true, hf, hst]

/-- **C14.kept_package_untouched**: with `{use_game_loop=true}` the package's tokens are those of its source. -/
theorem kept_package_untouched (src : List Bytes) : packageCode true src = Lex.lex src := by
  unfold packageCode
  cases Lex.lex src <;> rfl

/-- **C14.nothing_to_strip**: a package without game-loop functions keeps its tokens. -/
theorem nothing_to_strip (src : List Bytes) (toks : List Tok) (ts : List Tree)
    (hl : Lex.lex src = .ok toks) (hp : parse toks = .ok ts) (hn : stripRanges toks.toArray ts = []) :
    packageCode false src = .ok toks := by
  unfold packageCode
  simp only [hl, hp, hn, Bool.false_eq_true, if_false]

/-- **C14.build_is_composition**: a successful build is: lex the main file, discover its calls, evaluate them against
the world made of the concrete files (so `once`, `all_registered`, `registered_from_lookup` apply to `pkgs`), take
each registered package's (stripped) code, assemble, re-lex; the result is the echo of those tokens. -/
theorem build_is_composition (fs : Files) (main : Nat) (lp : Path.P) (code : Bytes) (h : buildLua fs main lp = .ok code) :
    ∃ mpath src mainToks calls pkgs bodies toks,
      fs[main]? = some (mpath, src) ∧ Lex.lex src = .ok mainToks ∧ requireCalls mainToks = .ok calls ∧
      evalCalls (worldOf fs lp) (4 * fs.length + 4 * calls.length + 16) calls main [] = .ok pkgs ∧
      bodies.map (·.1) = pkgs.map (·.name) ∧
      (∀ q ∈ pkgs, ∃ path psrc ptoks, fs[q.file]? = some (path, psrc) ∧ packageCode q.keepLoop psrc = .ok ptoks ∧
          (q.name, Wr.echo ptoks) ∈ bodies) ∧
      Lex.lex [assembleCode bodies (Wr.echo mainToks)] = .ok toks ∧ code = Wr.echo toks := by
  revert h
  fun_cases buildLua fs main lp <;> intro h <;> cases h
  rename_i mpath src hmain mainToks hlex calls hcalls _ pkgs hev bodies hbodies toks hrelex _ _
  obtain ⟨hb1, hb2⟩ := mapM_except_ok _ (fun q : Pkg => q.name) (fun b : Bytes × Bytes => b.1)
    (fun q b hq => by obtain ⟨_, _, _, _, _, rfl⟩ := pkgBody_ok hq; rfl) pkgs bodies hbodies
  refine ⟨mpath, src, mainToks, calls, pkgs, bodies, toks, hmain, hlex, hcalls, hev, hb1, fun q hq => ?_, hrelex, rfl⟩
  obtain ⟨b, hb, hbm⟩ := hb2 q hq
  obtain ⟨path, psrc, ptoks, hfile, hpc, rfl⟩ := pkgBody_ok hb
  exact ⟨path, psrc, ptoks, hfile, hpc, hbm⟩

/-- **C14.build_registers_once**: in a successful build no package name is registered twice. -/
theorem build_registers_once (fs : Files) (main : Nat) (lp : Path.P) (calls : List Call) (pkgs : List Pkg) (fuel : Nat)
    (h : evalCalls (worldOf fs lp) fuel calls main [] = .ok pkgs) : (pkgs.map (·.name)).Nodup :=
  (Eval.of_ok h).inv.once List.nodup_nil

/-- **C14.located_under_load_path**: every registered package's file is one of the load path's candidates for its
name, relative to the directory of a file that required it (C12's candidate list). -/
theorem located_under_load_path (fs : Files) (main : Nat) (lp : Path.P) (calls : List Call) (pkgs : List Pkg) (fuel : Nat)
    (h : evalCalls (worldOf fs lp) fuel calls main [] = .ok pkgs) :
    ∀ q ∈ pkgs, ∃ (from_ : Nat) (fromPath : Path.P) (fsrc : List Bytes) (c : Path.P), fs[from_]? = some (fromPath, fsrc) ∧
      c ∈ requireCandidates (bytesToPath q.name) (Path.dirname fromPath) lp ∧ fileIdx fs c = some q.file := by
  intro q hq
  rcases (Eval.of_ok h).inv.located q hq with hq' | ⟨from_, hl⟩
  · cases hq'
  · obtain ⟨fromPath, fsrc, c, hf, hc, hi⟩ := worldOf_locate fs lp q.name from_ q.file hl
    exact ⟨from_, fromPath, fsrc, c, hf, hc, hi⟩

example : (match Lex.lex ["print(require(\"a\"))\nrequire(\"b\", {use_game_loop=true})\n".toUTF8.toList] with
    | .ok ts => (match requireCalls ts with
        | .ok cs => cs.length == 2 && (cs.all fun c => !isErr c)
        | .error _ => false)
    | .error _ => false) = true := by decide +kernel

end concrete

end Pico.C14
