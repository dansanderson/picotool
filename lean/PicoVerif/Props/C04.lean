import PicoVerif.Lemmas.C04
/-! C04 — `.p8.png` write/read round trip preserves cart and label picture. -/
namespace Pico.C04
open Pico.P8Png Pico.P8File Pico.Compress

/-- the code is stored compressed (p8png.py:153-168): never in a version 0 cart; otherwise when that is smaller counting the
8-byte header, or when the uncompressed form cannot represent the code -/
def storedCompressed (code : Bytes) (v : Nat) : Prop := useCompressed code v = true

/-- the uncompressed form can hold the code: NUL-terminated text of at most 0x3d00 bytes that does not read as the compressed
header (which only readers of version ≥ 1 carts look for) -/
def rawHolds (code : Bytes) (v : Nat) : Prop :=
  (0 : UInt8) ∉ code ∧ (v = 0 ∨ code ≠ [0x3a, 0x63, 0x3a]) ∧ code.length ≤ codeAreaLen

/-- the compressed form can hold the code: version ≥ 1, 16-bit text length, header + stream within the code area -/
def compHolds (code : Bytes) (v : Nat) : Prop :=
  v ≠ 0 ∧ code.length < 65536 ∧ 8 + (compress code).length ≤ codeAreaLen

/-- the cart's code fits the 0x3d00-byte code area in the form picotool chooses -/
def codeFits (code : Bytes) (v : Nat) : Prop :=
  if useCompressed code v = true then code.length < 65536 ∧ 8 + (compress code).length ≤ codeAreaLen
  else ¬ (v = 0 ∧ (0 : UInt8) ∈ code) ∧ code.length ≤ codeAreaLen

/-- **C04.codeFits_iff**: "fits in the form picotool chooses" is the same as "some form of the format can hold it". The
right-hand side does not mention the choice. -/
theorem codeFits_iff (code : Bytes) (v : Nat) : codeFits code v ↔ rawHolds code v ∨ compHolds code v := by
  have hA : codeAreaLen = 0x3d00 := rfl
  unfold codeFits rawHolds compHolds
  split
  · next hc =>
    obtain ⟨hv, hor⟩ := (useCompressed_iff code v).mp hc
    refine ⟨fun h => Or.inr ⟨hv, h⟩, ?_⟩
    rintro (⟨hnul, hnc, hlen⟩ | ⟨_, h⟩)
    · rcases hor with hlt | hraw
      · omega
      · exact absurd ⟨hnul, hnc.resolve_left hv⟩ hraw
    · exact h
  · next hc =>
    refine ⟨fun ⟨h0, hlen⟩ => let ⟨h1, h2⟩ := raw_of_not_useCompressed code v hc h0; Or.inl ⟨h1, h2, hlen⟩, ?_⟩
    rintro (⟨hnul, _, hlen⟩ | ⟨hv, _, h⟩)
    · exact ⟨fun h => hnul h.2, hlen⟩
    · have hnlt : ¬ (compress code).length + 8 < code.length := fun hlt =>
        hc ((useCompressed_iff code v).mpr ⟨hv, Or.inl hlt⟩)
      exact ⟨fun h => hv h.1, by omega⟩

/-- **C04.raw_fit_never_refused**: code that the uncompressed form can hold always fits in the form picotool chooses — choosing
the compressed form never turns a cart that fits into one that is refused (defect 31). -/
theorem raw_fit_never_refused (code : Bytes) (v : Nat) (h : rawHolds code v) : codeFits code v :=
  (codeFits_iff code v).mpr (Or.inl h)

/-- **C04.written_iff**: the writer produces an image exactly when the code fits (in the sense of `codeFits_iff`: some form of
the format can hold it) and the version is a byte — it neither refuses a cart that fits nor writes one that does not. -/
theorem written_iff (lbl : List (List UInt8)) (c : Cart) :
    (∃ rows, toPixels lbl c = .ok rows) ↔ codeFits c.code c.version ∧ c.version < 256 := by
  rw [toPixels_ok_iff, getBytes_ok_iff]; rfl

/-- so such a cart is written (with `refuses`: the writer fails exactly when `codeFits` does not hold). -/
theorem raw_fit_written (lbl : List (List UInt8)) (c : Cart) (h : rawHolds c.code c.version) (hv : c.version < 256) :
    ∃ rows, toPixels lbl c = .ok rows :=
  (written_iff lbl c).mpr ⟨raw_fit_never_refused c.code c.version h, hv⟩

/-- **C04.refuses**: a cart whose code does not fit is refused with an error, never written. -/
theorem refuses (lbl : List (List UInt8)) (c : Cart) (h : ¬ codeFits c.code c.version) :
    ∃ e, toPixels lbl c = .error e := by
  cases ht : toPixels lbl c with
  | error e => exact ⟨e, rfl⟩
  | ok rows => exact absurd ((written_iff lbl c).mp ⟨rows, ht⟩).1 h

/-- **C04.code_area_compressed**: code stored compressed reads back exactly (CR -> space), under C05's guard (the version is
≥ 1 because the form was chosen). -/
theorem code_area_compressed (code : Bytes) (v : Nat) (hc : storedCompressed code v)
    (hfit : codeFits code v) (hg : C05.Guard code) :
    ∃ area sz, getBytesFromCode code v = .ok area ∧ area.length = codeAreaLen ∧
      getCodeFromBytes area v = .ok (code.length, replaceCR code, some sz) := by
  have hc' : useCompressed code v = true := hc
  have ⟨h1, h2⟩ := (if_pos hc').mp hfit
  obtain ⟨sz, hsz⟩ := getCode_compressed code
    (List.replicate (codeAreaLen - (8 + (compress code).length)) 0) v ((useCompressed_iff code v).mp hc).1 hg
  refine ⟨_, sz, getBytes_compressed code v hc' h1 h2, ?_, hsz⟩
  simp only [List.length_append, header_length, List.length_replicate]
  omega

/-- **C04.code_area_raw**: code stored raw reads back with a newline appended (CR -> space) — with no side condition: code
with a NUL byte or the bare magic `:c:` is never stored raw in a cart whose reader would misread it (defects 32, 33). -/
theorem code_area_raw (code : Bytes) (v : Nat) (hc : ¬ storedCompressed code v) (hfit : codeFits code v) :
    ∃ area, getBytesFromCode code v = .ok area ∧ area.length = codeAreaLen ∧
      getCodeFromBytes area v = .ok (code.length, replaceCR (code ++ [10]), none) := by
  have hc' : ¬ useCompressed code v = true := hc
  have ⟨h0, h1⟩ := (if_neg hc').mp hfit
  have hraw := raw_of_not_useCompressed code v hc h0
  refine ⟨_, getBytes_raw code v hc h0 h1, ?_, getCode_raw code _ v (by omega) hraw.1 hraw.2⟩
  simp only [List.length_append, List.length_replicate]
  omega

/-- **C04.stego_roundtrip**: the hidden bytes read back from the written rows. -/
theorem stego_roundtrip (lbl : List (List UInt8)) (w : Nat) (pico : Bytes) (h : WFLabel lbl w)
    (hp : pico.length ≤ w * lbl.length) :
    (decRows (encRows lbl pico)).take pico.length = pico :=
  (List.prefix_iff_eq_take.mp (stego_prefix lbl w pico h.rows hp)).symm

/-- **C04.label_bits**: the written image has the label's shape and equals it in the upper six bits of
every channel of every pixel. -/
theorem label_bits (lbl : List (List UInt8)) (w : Nat) (pico : Bytes) (h : WFLabel lbl w) :
    (encRows lbl pico).length = lbl.length ∧
    ∀ i, i < lbl.length → ∀ j, j < 4 * w →
      ((encRows lbl pico).getD i []).length = 4 * w ∧
      ((encRows lbl pico).getD i []).getD j 0 >>> (2 : UInt8) = (lbl.getD i []).getD j 0 >>> (2 : UInt8) := by
  refine ⟨encRows_length lbl pico, fun i hi j _ => ?_⟩
  obtain ⟨vs, hvs⟩ := encRows_getD lbl pico i hi
  have hmem : lbl.getD i [] ∈ lbl := List.getElem_eq_getD (h := hi) [] ▸ List.getElem_mem hi
  rw [hvs]
  exact ⟨by rw [encRow_length, h.rows _ hmem], encRow_shr _ vs j⟩

/-- the cart as the reader returns it -/
def normPng (c : Cart) : Cart :=
  { c with code := if useCompressed c.code c.version = true then replaceCR c.code else replaceCR (c.code ++ [10]),
           label := none }

/-- **C04.fits_roundtrip**: writing any cart whose code fits and reading the pixels back yields identical data regions,
version and code (trailing newline / CR normalisation), compressed or raw, at every version; the only side condition is
C05's guard for code stored compressed (the text does not itself end with PICO-8's compatibility suffix). -/
theorem fits_roundtrip (lbl : List (List UInt8)) (w : Nat) (c : Cart) (hl : WFLabel lbl w) (hr : WFRegions c)
    (hfit : codeFits c.code c.version)
    (hcomp : storedCompressed c.code c.version → C05.Guard c.code) :
    ∃ rows, toPixels lbl c = .ok rows ∧ fromPixels rows = .ok (normPng c) := by
  unfold normPng
  split
  · next hc =>
    obtain ⟨area, sz, hb, ha, hcode⟩ := code_area_compressed c.code c.version hc hfit (hcomp hc)
    exact pixels_roundtrip lbl w c hl hr area hb ha _ _ _ hcode
  · next hc =>
    obtain ⟨area, hb, ha, hcode⟩ := code_area_raw c.code c.version hc hfit
    exact pixels_roundtrip lbl w c hl hr area hb ha _ _ _ hcode

/-- non-vacuity: code with a NUL byte fits a version 8 cart (stored compressed) and is refused by a version 0 cart -/
example : useCompressed [45, 45, 0, 10] 8 = true ∧ useCompressed [45, 45, 0, 10] 0 = false ∧
    useCompressed [0x3a, 0x63, 0x3a] 8 = true ∧ useCompressed [0x3a, 0x63, 0x3a] 0 = false := by decide +kernel

end Pico.C04
