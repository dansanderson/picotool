import PicoVerif.Model.CartMem
import PicoVerif.Lemmas.C18
/-! C18 — raw cart-memory writes land at the addressed bytes and only there. -/
namespace Pico.C18
open Pico.CartMem

/-- the regenerated memory map is the PICO-8 one: five contiguous regions from 0 to 0x4300 -/
theorem memmap_ok : Gen.memmap = [(0, 0x2000, "gfx"), (0x2000, 0x3000, "map"), (0x3000, 0x3100, "gff"),
    (0x3100, 0x3200, "music"), (0x3200, 0x4300, "sfx")] ∧ Gen.cartEnd = 0x4300 := by decide

/-- **C18.sizes**: every region keeps its size. -/
theorem sizes (m : Mem) (d : Bytes) (a : Nat) (h : m.WF) (m' : Mem)
    (hw : writeCartData m d a = .ok m') : m'.WF := by
  rw [((writeCartData_ok_iff m d a m').mp hw).2]
  exact writeAll_WF m d a h

/-- **C18.spec**: a write inside the cart changes exactly the addressed bytes to the data. -/
theorem spec (m : Mem) (d : Bytes) (a : Nat) (h : m.WF) (hfit : a + d.length ≤ 0x4300) :
    ∃ m', writeCartData m d a = .ok m' ∧
      m'.flat = m.flat.take a ++ d ++ m.flat.drop (a + d.length) := by
  refine ⟨_, (writeCartData_ok_iff m d a _).mpr ⟨hfit, rfl⟩, ?_⟩
  rw [writeAll_flat_eq m d a h, ← flat_length m h] at *  -- `hfit` too: 0x4300 becomes `m.flat.length`
  exact writeRegion_whole m.flat d a hfit

/-- **C18.pointwise**: byte `i` of memory afterwards is the data byte if addressed, else unchanged. -/
theorem pointwise (m : Mem) (d : Bytes) (a : Nat) (h : m.WF) (hfit : a + d.length ≤ 0x4300) (m' : Mem)
    (hw : writeCartData m d a = .ok m') (i : Nat) :
    m'.flat[i]? = if a ≤ i ∧ i < a + d.length then d[i - a]? else m.flat[i]? := by
  have hl := flat_length m h
  rw [((writeCartData_ok_iff m d a m').mp hw).2, writeAll_flat_eq m d a h,
    writeRegion_getElem? 0 0x4300 m.flat d a hl, Nat.zero_add]
  by_cases c : a ≤ i ∧ i < a + d.length
  · rw [if_pos c, if_pos ⟨by omega, c⟩]
  · rw [if_neg c, if_neg (fun c' => c c'.2)]

/-- **C18.reject**: a write that would pass 0x4300 is rejected (and, being a pure function, modifies nothing). -/
theorem reject (m : Mem) (d : Bytes) (a : Nat) (h : a + d.length > 0x4300) :
    writeCartData m d a = .error .value := by
  unfold writeCartData
  exact if_pos h

def writes (m : Mem) : List (Bytes × Nat) → Except Err Mem
  | [] => .ok m
  | (d, a) :: rest => do let m' ← writeCartData m d a; writes m' rest

def specWrites (f : Bytes) : List (Bytes × Nat) → Bytes
  | [] => f
  | (d, a) :: rest => specWrites (f.take a ++ d ++ f.drop (a + d.length)) rest

/-- **C18.history**: any sequence of in-range writes behaves like the flat-memory specification. -/
theorem history (ws : List (Bytes × Nat)) (m : Mem) (h : m.WF)
    (hfit : ∀ w ∈ ws, w.2 + w.1.length ≤ 0x4300) :
    ∃ m', writes m ws = .ok m' ∧ m'.WF ∧ m'.flat = specWrites m.flat ws := by
  induction ws generalizing m with
  | nil => exact ⟨m, rfl, h, rfl⟩
  | cons w rest ih =>
    obtain ⟨d, a⟩ := w
    obtain ⟨m1, hw, hflat⟩ := spec m d a h (hfit (d, a) List.mem_cons_self)
    obtain ⟨m2, hws, hwf, hf2⟩ := ih m1 (sizes m d a h m1 hw)
      (fun w hmem => hfit w (List.mem_cons_of_mem _ hmem))
    refine ⟨m2, ?_, hwf, ?_⟩
    · simp only [writes, hw]; exact hws
    · rw [hf2, hflat]; rfl

/-- non-vacuity: a 3-byte write across the gfx/map boundary of an all-zero memory -/
def zeroMem : Mem := ⟨List.replicate 0x2000 0, List.replicate 0x1000 0, List.replicate 0x100 0,
  List.replicate 0x100 0, List.replicate 0x1100 0⟩
example : zeroMem.WF := by
  refine ⟨?_, ?_, ?_, ?_, ?_⟩ <;> exact List.length_replicate

end Pico.C18
