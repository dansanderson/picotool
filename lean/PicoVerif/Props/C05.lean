import PicoVerif.Model.Compress
import PicoVerif.Spec.Stream
import PicoVerif.Lemmas.C05
/-! C05 — code compression is lossless and emits only well-formed `:c:` streams. -/
namespace Pico.C05
open Pico.Compress

/-- facts about the regenerated character table the proofs rest on: 60 entries, so block bytes start at
0x3c and `offset / 16 + 60 ≤ 255` for offsets up to the 3120-byte window -/
theorem table_ok : Gen.charTable.length = 60 ∧ tableLen = 60 ∧ maxHistLen = 3120 :=
  ⟨charTable_length, tableLen_eq, maxHistLen_eq⟩

/-- the regenerated table IS the 60-entry literal table of the PICO-8 `:c:` format (index 0 is the escape marker), and
the compatibility suffixes are the ones PICO-8 appends: a reordered or edited table breaks this obligation -/
theorem table_is_format :
    -- the 60 characters  # LF space 0-9 a-z ! # % ( ) { } [ ] < > + = / * : ; . , ~ _
    Gen.charTable = [35, 10, 32, 48, 49, 50, 51, 52, 53, 54, 55, 56, 57, 97, 98, 99, 100, 101, 102, 103, 104, 105, 106, 107, 108, 109, 110, 111, 112, 113, 114, 115, 116, 117, 118, 119, 120, 121, 122, 33, 35, 37, 40, 41, 123, 125, 91, 93, 60, 62, 43, 61, 47, 42, 58, 59, 46, 44, 126, 95] ∧
    -- "if(_update60)_update=function()_update60()_update60()end"
    Gen.futureCode1 = [105, 102, 40, 95, 117, 112, 100, 97, 116, 101, 54, 48, 41, 95, 117, 112, 100, 97, 116, 101, 61, 102, 117, 110, 99, 116, 105, 111, 110, 40, 41, 95, 117, 112, 100, 97, 116, 101, 54, 48, 40, 41, 95, 117, 112, 100, 97, 116, 101, 54, 48, 40, 41, 101, 110, 100] ∧
    -- "if(_update60)_update=function()_update60()_update_buttons()_update60()end"
    Gen.futureCode2 = [105, 102, 40, 95, 117, 112, 100, 97, 116, 101, 54, 48, 41, 95, 117, 112, 100, 97, 116, 101, 61, 102, 117, 110, 99, 116, 105, 111, 110, 40, 41, 95, 117, 112, 100, 97, 116, 101, 54, 48, 40, 41, 95, 117, 112, 100, 97, 116, 101, 95, 98, 117, 116, 116, 111, 110, 115, 40, 41, 95, 117, 112, 100, 97, 116, 101, 54, 48, 40, 41, 101, 110, 100] := by
  decide +kernel

/-- a literal's table index decodes to that literal -/
theorem literal_index_ok (b : UInt8) :
    literalIndex b < 60 ∧ (literalIndex b ≠ 0 → Gen.charTable[literalIndex b]? = some b) :=
  literalIndex_spec b

/-- **C05.find_block_spec**: the block `_find_repeatable_block` returns is a real repeat inside the window. -/
theorem find_block_spec (dat : Array UInt8) (pos : Nat) (hpos : pos < dat.size) :
    let r := findBlock dat pos
    r.1 ≤ 17 ∧ pos + r.1 ≤ dat.size ∧
    (r.1 ≥ 3 → 1 ≤ r.2 ∧ r.2 ≤ min pos 3120 ∧ r.1 ≤ r.2.toNat ∧
      ∀ k, k < r.1 → dat.getD (pos - r.2.toNat + k) 0 = dat.getD (pos + k) 0) :=
  findBlock_spec dat pos hpos rfl

/-- **C05.ref_roundtrip**: the independent decoder recovers the compressed text (with PICO-8's suffix). -/
theorem ref_roundtrip (t : Bytes) : Spec.refDecode (compress t) = some (withSuffix t) := by
  rw [Spec.refDecode, refDecodeAux_compress]
  rfl

/-- **C05.compress_wf**: every stream the producer emits is well formed by the format description. -/
theorem compress_wf (t : Bytes) : Spec.wellFormed (compress t) = true := by
  simp [Spec.wellFormed, ref_roundtrip]

/-- the decoder loop run on a stream placed after an 8-byte header, up to `n` output bytes -/
def decodeBody (s : Bytes) (n : Nat) : Except Err Bytes :=
  let cd := (List.replicate 8 (0 : UInt8) ++ s).toArray
  match decodeLoop cd n (cd.size + 1) ⟨8, #[]⟩ with
  | .ok st => .ok st.out.toList
  | .error e => .error e

/-- **C05.impl_agrees**: on every well-formed stream — whichever matches a producer chose, overlapping
blocks included — picotool's decoder loop returns the reference decoder's output, cut at `n` bytes. -/
theorem impl_agrees (s full : Bytes) (n : Nat) (h : Spec.refDecode s = some full) :
    decodeBody s n = .ok (full.take n) := by
  obtain ⟨fa, hr, rfl⟩ := Option.map_eq_some_iff.mp h
  obtain ⟨st, hst, hout⟩ := decodeLoop_sim (List.replicate 8 (0 : UInt8) ++ s).toArray n []
    ((List.replicate 8 (0 : UInt8) ++ s).toArray.size + 1) s #[] fa 8 #[] hr (Or.inl rfl) (by simp) (by simp) (by simp)
  simp only [decodeBody, hst, hout]

/-- what the proof of the end-to-end round trip needs from the text: the length fits the 16-bit header, and
the text does not itself end with one of PICO-8's compatibility suffixes (the decoder strips those: the
format cannot tell them from the suffix PICO-8 appends). Each conjunct is replayed on the real code. -/
def Guard (t : Bytes) : Prop :=
  t.length < 65536 ∧ ¬ Gen.futureCode1.isSuffixOf t = true ∧ ¬ Gen.futureCode2.isSuffixOf t = true

/-- **C05.area_roundtrip**: decoding the code area picotool writes (header and stream) returns the text. -/
theorem area_roundtrip (t : Bytes) (h : Guard t) (pad : Bytes) :
    ∃ sz, decompress (header t ++ compress t ++ pad) = .ok (t.length, t, sz) := by
  obtain ⟨hlen, h1, h2⟩ := h
  obtain ⟨st, hst, hout⟩ := decodeLoop_sim (header t ++ compress t ++ pad).toArray t.length pad
    ((header t ++ compress t ++ pad).toArray.size + 1) (compress t) #[] (withSuffix t).toArray
    8 #[] (refDecodeAux_compress t) (Or.inr (withSuffix_prefix t).length_le) (by simp [header])
    (by simp; omega) (by simp)
  have hout' : st.out.toList = t := hout.trans (List.prefix_iff_eq_take.mp (withSuffix_prefix t)).symm
  refine ⟨st.inI, ?_⟩
  unfold decompress
  simp only []
  rw [if_neg (by simp [header])]
  have hcl : ((header t ++ compress t ++ pad).toArray.getD 4 0).toNat * 256 +
      ((header t ++ compress t ++ pad).toArray.getD 5 0).toNat = t.length := by
    simpa [header] using header_len_bytes _ hlen
  rw [hcl, if_neg (by simp [header, pySlice]), hst]
  simp only [hout', stripSuffix_noop _ _ h1, stripSuffix_noop _ _ h2]

/-- non-vacuity / regression anchors -/
example : Spec.refDecode [Gen.charTable.idxOf 97 |>.toUInt8, 0x3c, 0x31] = some [97, 97, 97, 97, 97, 97] := by decide +kernel

end Pico.C05
