import PicoVerif.Model.P8scii
import PicoVerif.Lemmas.C15
/-! C15 — P8SCII <-> Unicode is a bijection on all byte strings.
The concrete table `Gen.p8scii` (regenerated from /repo on every run) enters through kernel-evaluated side conditions
only: 256 rows in code order, valid non-empty spellings, pairwise distinct first code points (`decodable`). What the
converters need of the table (`nodup`, `prefix_free`, `width_well_defined`) follows from these by `Lemmas/C15.lean`. -/
namespace Pico.C15
open Pico.P8scii

def tbl : Table := Gen.p8scii
def spellings : List (List Nat) := tbl.map (·.2)

/-- the table has one row per byte value -/
theorem table_256 : tbl.length = 256 := by decide +kernel

/-- row `i` is the row for code `i` (the converter indexes by position) -/
theorem indices : tbl.map (·.1) = List.range 256 := by decide +kernel

def scalarsB : Bool := spellings.all fun s => !s.isEmpty && s.all validScalar
/-- every spelling is non-empty and consists of Unicode scalar values (so it encodes as UTF-8) -/
theorem scalars_valid : scalarsB = true := by decide +kernel

theorem scalars {e : Nat × List Nat} (he : e ∈ tbl) : e.2 ≠ [] ∧ e.2.all validScalar = true := by
  have := List.all_eq_true.mp scalars_valid e.2 (List.mem_map_of_mem he)
  rwa [Bool.and_eq_true, Bool.not_eq_true', List.isEmpty_eq_false_iff] at this

theorem decodable : Decodable tbl where
  codes := table_256 ▸ indices
  nonempty _ he := (scalars he).1
  heads := by decide +kernel

/-- each of the 256 characters has a distinct Unicode spelling -/
theorem nodup : spellings.Nodup := decodable.spellings_nodup

def prefixFreeB : Bool := spellings.all fun a => spellings.all fun b => !(a.isPrefixOf b) || a == b
/-- no spelling is a prefix of another -/
theorem prefix_free : prefixFreeB = true := by
  simp only [prefixFreeB, spellings, List.all_eq_true, List.mem_map, forall_exists_index, and_imp,
    forall_apply_eq_imp_iff₂, Bool.or_eq_true, Bool.not_eq_true', beq_iff_eq]
  intro e he e' he'
  cases hp : e.2.isPrefixOf e'.2 with
  | false => exact .inl rfl
  | true => exact .inr (congrArg (·.2) (decodable.eq_of_prefix he he' (List.isPrefixOf_iff_prefix.mp hp)))

def rowOK (i : Nat) : Bool :=
  let s := spelling tbl i
  match s with
  | [] => false
  | c :: _ => lookupWidth tbl c == some s.length && lookupCode tbl s == some i
def rowsB : Bool := (List.range 256).all rowOK
/-- decoding one character: the width looked up by first code point is the spelling's length and
the spelling maps back to its own code (this is what can break when a spelling is duplicated or
two spellings with the same first code point have different lengths) -/
theorem width_well_defined : rowsB = true := by
  simp only [rowsB, List.all_eq_true, List.mem_range]
  intro i hi
  have hi : i < tbl.length := table_256 ▸ hi
  unfold rowOK
  cases hs : spelling tbl i with
  | nil => exact absurd hs (decodable.spelling_ne_nil hi)
  | cons c cs => simp [decodable.lookup_spelling hi hs]

/-- **C15.roundtrip**: converting any P8SCII byte string to Unicode and back returns the bytes. -/
theorem roundtrip (bs : Bytes) : toP8 tbl (toUnicode tbl bs) = some (bs.map (·.toNat)) :=
  decodable.toP8_toUnicode bs fun b _ => table_256 ▸ b.toNat_lt

/-- **C15.unambiguous**: two byte strings with the same Unicode text are equal. -/
theorem unambiguous (a b : Bytes) (h : toUnicode tbl a = toUnicode tbl b) : a = b := by
  have ha := roundtrip a
  have hb := roundtrip b
  rw [h, hb] at ha
  have := Option.some.inj ha
  exact ((List.map_inj_right (fun x y hxy => UInt8.toNat_inj.mp hxy)).mp this).symm

/-- **C15.utf8_ok**: the Unicode text of any byte string consists of valid scalar values. -/
theorem utf8_ok (bs : Bytes) : (toUnicode tbl bs).all validScalar = true := by
  rw [toUnicode, List.all_flatMap, List.all_eq_true]
  intro b _
  exact (scalars (decodable.row_mem (table_256 ▸ b.toNat_lt))).2

/-- non-vacuity: a concrete string with control, ASCII, glyph and two-code-point characters -/
example : toP8 tbl (toUnicode tbl [0, 65, 0x83, 0x8e, 255]) = some [0, 65, 0x83, 0x8e, 255] := by decide +kernel

end Pico.C15
