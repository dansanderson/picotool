import PicoVerif.Lemmas.C01
import PicoVerif.Lemmas.C01Ren
import PicoVerif.Lemmas.C01Adj
/-! C01 — luamin keeps the program: same tokens modulo renaming, nothing glued.

The end-to-end statement is `minify_relex`. It is stated for every token list the lexer can produce in which no
two adjacent significant tokens are a pair that *no program of the dialect can contain next to each other* and that
would fuse when written back to back (`~` `=`, `<` `<`, `.` `5`, ... — `FusablePair`); that programs accepted by
the parser never contain such a pair is `parsed_noFusable`, and `minify_relex_parsed` is the statement without side
condition. -/
namespace Pico.C01
open Pico.Lex Pico.Wr

/-- word-like text: written back to back two of these would fuse (name, keyword, number) -/
def wordLike (c : Bytes) : Bool := (c.head?.map isIdentChar).getD false || (c.head? == some 46 && ((c.drop 1).head?.map isDigit).getD false)

/-- a pair of adjacent *symbol/number* token texts that fuses when written back to back and that luamin does not
separate; such pairs cannot be adjacent in a program of the dialect (an operator is never followed by `=`, `<`, ...) -/
def FusablePair (a b : Bytes) : Bool :=
  !needsSpace a b && !(wordLike a && wordLike b) &&
  (Spec.Lex.longestPrefixIn Spec.Lex.symbolSet (a ++ b) > a.length ||
   (a == [46] && (b.head?.map isDigit).getD false) ||
   ([47, 47].isPrefixOf (a ++ b) && a.length < 2) ||
   (a.getLast? == some 58 && b.head? == some 58) ||
   (a.getLast? == some 91 && b.head? == some 61))

/-- no adjacent significant symbol/number tokens form a fusable pair -/
def NoFusablePair (toks : List Tok) : Prop :=
  ∀ i, i + 1 < (sigToks toks).length →
    ∀ a b, (sigToks toks)[i]? = some a → (sigToks toks)[i + 1]? = some b →
      (a.kind = .symbol ∨ a.kind = .number) → (b.kind = .symbol ∨ b.kind = .number) → FusablePair a.code b.code = false

/-- **C01.needsSpace_covers**: the four ways two token texts of a valid program fuse — `-` `-` (comment), `[` `[[`
(long string), `.`-ending then `.`-starting (`..` `...`, `..` `.5`), a number then `.` — are all recognised. -/
theorem needsSpace_covers (a b : Bytes) (ha : a ≠ []) (hb : b ≠ []) :
    (a.getLast? = some 45 ∧ b.head? = some 45 → needsSpace a b = true) ∧
    (a.getLast? = some 91 ∧ b.head? = some 91 → needsSpace a b = true) ∧
    (a.getLast? = some 46 ∧ b.head? = some 46 → needsSpace a b = true) ∧
    ((a.head?.map isDigit).getD false = true ∧ b.head? = some 46 → needsSpace a b = true) := by
  have h := C01L.needsSpace_covers a b
  exact ⟨h.1, h.2.1, h.2.2.1, h.2.2.2 ha⟩

/-- **C01.joined_separated**: in the joined output a space stands between two chunks whenever `needsSpace` says so,
and nothing else is inserted: the output is the chunks with those spaces. -/
theorem joined_separated (prev : Bytes) (cs : List Bytes) :
    joinChunks prev cs = (cs.zip (prev :: cs)).flatMap (fun (c, p) => (if needsSpace p c then [32] else []) ++ c) :=
  C01L.joined_separated prev cs

/-- **C01.words_separated**: luamin never writes two word-like tokens (names, keywords, numbers) back to back:
whenever a name/keyword/number follows one without a newline token in between, a space chunk is emitted first. -/
theorem words_separated (cfg : NameCfg) (st : MinSt) (t : Tok) (h : st.lastNKN = true)
    (hk : t.kind = .name ∨ t.kind = .keyword ∨ t.kind = .number) (hs : st.seenCode = true) :
    ∃ st' c, minStep cfg st t = (st', [[32], c]) ∧ st'.lastNKN = true :=
  C01L.words_separated cfg st t h hk hs

/-- **C01.newline_kept**: a newline token after code always yields a line feed in the output unless one was just
written (so every line-scoped shorthand still ends where it ended), and resets the word flag. -/
theorem newline_kept (cfg : NameCfg) (st : MinSt) (t : Tok) (hk : t.kind = .newline) (hs : st.seenCode = true) :
    minStep cfg st t = ({ st with lastNKN := false, lastNL := true }, if st.lastNL then [] else [[10]]) :=
  C01L.newline_kept cfg st t hk hs

def sameTok (a b : Tok) : Bool := a.kind == b.kind && a.data == b.data && a.quote == b.quote && a.mlq == b.mlq

/-- **C01.minify_relex** (end to end): the code luamin writes lexes to exactly the input's sequence of keywords,
symbols, numbers, strings and identifiers, the identifiers differing at most by a renaming. -/
theorem minify_relex (cfg : NameCfg) (src : Bytes) (toks : List Tok) (hl : lex [src] = .ok toks)
    (hn : NoFusablePair toks) :
    ∃ out f, lex [minify cfg toks] = .ok out ∧ (sigToks out).length = (sigToks toks).length ∧
      ∀ i, i < (sigToks toks).length →
        ∃ a b, (sigToks out)[i]? = some a ∧ (sigToks toks)[i]? = some b ∧ sameTok a (renameTok f b) = true := by
  have hff : C01L.FusFree (sigToks toks) := by
    intro i a b ha hb hsa hsb
    have := hn i (List.getElem?_eq_some_iff.mp hb).1 a b ha hb hsa hsb
    rw [C01L.code_symOrNum a hsa, C01L.code_symOrNum b hsb] at this
    exact this
  obtain ⟨out, f, ho, hs⟩ := C01L.minify_relex_of_fusFree cfg src toks hl hff
  obtain ⟨hlen, hidx⟩ := (map_eq_iff_index _ _ _ _).mp hs
  refine ⟨out, f, ho, hlen, fun i hi => ?_⟩
  obtain ⟨a, b, ha, hb, hab⟩ := hidx i hi
  refine ⟨a, b, ha, hb, ?_⟩
  simp only [C01L.core, Prod.mk.injEq] at hab
  simp [sameTok, hab]

/-- **C01.token_count**: the token count `stats` reports depends only on kinds and data of significant tokens that
renaming does not touch, so it is unchanged whenever the tokens read back as in `minify_relex`. -/
theorem token_count (f : Bytes → Bytes) (a b : List Tok) (hlen : (sigToks a).length = (sigToks b).length)
    (h : ∀ i, i < (sigToks b).length → ∃ x y, (sigToks a)[i]? = some x ∧ (sigToks b)[i]? = some y ∧ sameTok x (renameTok f y) = true) :
    tokenCount a = tokenCount b := by
  apply C01L.token_count a b hlen
  intro i hi
  obtain ⟨x, y, hx, hy, hs⟩ := h i hi
  refine ⟨x, y, hx, hy, ?_⟩
  simp only [sameTok, Bool.and_eq_true, beq_iff_eq] at hs
  obtain ⟨⟨⟨hk, hd⟩, _⟩, _⟩ := hs
  unfold renameTok at hk hd
  constructor
  · rw [hk]; split
    · rfl
    · split <;> rfl
  · intro h1 h2; rw [hd, if_neg h1, if_neg h2]

/-- **C01.parsed_noFusable**: the side condition of `minify_relex` is a theorem about picotool's grammar: a token list that
the lexer produced and that the parser accepts and consumes to its last significant token contains no fusable pair of
neighbouring symbol/number tokens. (Proved by an adjacency analysis of the grammar data — FIRST/LAST/FOLLOW sets of token
patterns, sound for every grammar (`Adj.run_adj`) — and a kernel-evaluated table fact about picotool's 71 patterns.) -/
theorem parsed_noFusable (src : Bytes) (toks : List Tok) (hl : lex [src] = .ok toks) (fuel : Nat)
    (ts : List Peg.Tree) (st' : Peg.PSt)
    (hp : C08.parse toks.toArray fuel = .ok (some (ts, st')))
    (hend : Peg.skipTrivia toks.toArray st'.pos ≥ toks.toArray.size) : NoFusablePair toks := by
  intro i _ a b ha hb hsa hsb
  rw [C01L.code_symOrNum a hsa, C01L.code_symOrNum b hsb]
  show C01L.fusable a.data b.data = false
  exact C01A.fusable_false_of_parse src toks hl fuel ts st' hp hend i a b ha hb hsa hsb

/-- **C01.minify_relex_parsed** (end to end, no side condition): for every source text that picotool lexes and parses to its
last significant token, the code luamin writes lexes to exactly the input's sequence of keywords, symbols, numbers,
strings and identifiers, the identifiers differing at most by a renaming. -/
theorem minify_relex_parsed (cfg : NameCfg) (src : Bytes) (toks : List Tok) (hl : lex [src] = .ok toks) (fuel : Nat)
    (ts : List Peg.Tree) (st' : Peg.PSt)
    (hp : C08.parse toks.toArray fuel = .ok (some (ts, st')))
    (hend : Peg.skipTrivia toks.toArray st'.pos ≥ toks.toArray.size) :
    ∃ out f, lex [minify cfg toks] = .ok out ∧ (sigToks out).length = (sigToks toks).length ∧
      ∀ i, i < (sigToks toks).length →
        ∃ a b, (sigToks out)[i]? = some a ∧ (sigToks toks)[i]? = some b ∧ sameTok a (renameTok f b) = true :=
  minify_relex cfg src toks hl (parsed_noFusable src toks hl fuel ts st' hp hend)

example : FusablePair [126] [61] = true := by decide +kernel       -- `~` `=` would fuse (never adjacent in a program)
example : FusablePair [45] [45] = false := by decide +kernel        -- `-` `-` is separated by luamin
example : minify {} [{ kind := .name, data := [97] }, { kind := .symbol, data := [45] }, { kind := .symbol, data := [45] },
                     { kind := .name, data := [98] }] = [97, 45, 32, 45, 98] := by decide +kernel

end Pico.C01
