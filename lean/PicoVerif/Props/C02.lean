import PicoVerif.Model.Writers
import PicoVerif.Lemmas.C02
import PicoVerif.Spec.Pico8Api
/-! C02 — luamin renaming is a consistent injection that respects reserved names.
`run cfg ns` is the list of output names for a request history `ns` (every identifier occurrence of the
program in order: variables, fields, methods, parameters, labels — all go through `get_short_name`). -/
namespace Pico.C02
open Pico.Wr

/-- outputs of `get_short_name` along a request history, threading the factory state -/
def runFrom (cfg : NameCfg) : NameSt → List Bytes → List Bytes
  | _, [] => []
  | st, n :: rest => let (st', o) := getShortName cfg st n; o :: runFrom cfg st' rest

def run (cfg : NameCfg) (ns : List Bytes) : List Bytes := runFrom cfg {} ns

/-- facts about the regenerated tables: 26 distinct name characters; every Lua keyword is preserved -/
theorem tables_ok : Gen.nameChars.length = 26 ∧ Gen.nameChars.Nodup ∧
    (Gen.luaKeywords.all fun k => Gen.preservedNames.contains k) = true ∧
    (Gen.pico8Builtins.all fun k => Gen.preservedNames.contains k) = true := by
  decide +kernel

/-- **C02.api_names_preserved**: every name of the PICO-8 API (the fixed list `Spec.pico8Api`, not regenerated) and every
Lua keyword written out here is in the regenerated preserved set — so `kept` applies to each of them, and a name lost
from picotool's table breaks this theorem. -/
theorem api_names_preserved :
    (Spec.pico8Api.all fun n => Gen.preservedNames.contains n) = true ∧ Spec.pico8Api.length = 125 ∧
    (["and", "break", "do", "else", "elseif", "end", "false", "for", "function", "goto", "if", "in", "local", "nil", "not", "or",
      "repeat", "return", "then", "true", "until", "while"].all fun k => Gen.preservedNames.contains k.toUTF8.toList) = true := by
  decide +kernel

/-- **C02.nameForId_inj**: the short-name enumeration never repeats a name (all ids, no bound). -/
theorem nameForId_inj (a b : Nat) (h : nameForId a = nameForId b) : a = b :=
  C02L.nameForId_inj a b h

/-- **C02.alloc_total**: the skip loop always finds a free name within its fuel (pigeonhole), so the
model's fallback branch is unreachable and the real `while True` loop terminates. -/
theorem alloc_total (cfg : NameCfg) (id : Nat) :
    ∃ nm nxt, alloc cfg (allocFuel cfg) id = some (nm, nxt) ∧ id < nxt ∧ reserved cfg nm = false ∧
      nm = nameForId (nxt - 1) ∧ ∀ k, id ≤ k → k < nxt - 1 → reserved cfg (nameForId k) = true :=
  C02L.alloc_total cfg id

theorem runFrom_spec (cfg : NameCfg) : ∀ ns st, C02L.Inv cfg st → ∃ stf, C02L.Inv cfg stf ∧ C02L.Ext st stf ∧
    (runFrom cfg st ns).length = ns.length ∧
    ∀ i (hi : i < ns.length), ∃ o, (runFrom cfg st ns)[i]? = some o ∧ C02L.Out cfg stf ns[i] o := by
  intro ns
  induction ns with
  | nil => intro st hinv; exact ⟨st, hinv, C02L.Ext.refl st, rfl, fun i hi => by simp at hi⟩
  | cons n rest ih =>
    intro st hinv
    obtain ⟨hinv', hext, hout⟩ := C02L.step_spec cfg st n hinv
    obtain ⟨stf, hinvf, hextf, hlen, hall⟩ := ih _ hinv'
    refine ⟨stf, hinvf, hext.trans hextf, by simp [runFrom, hlen], ?_⟩
    intro i hi
    cases i with
    | zero => exact ⟨(getShortName cfg st n).2, by simp [runFrom], hout.mono hextf⟩
    | succ i => simpa [runFrom] using hall i (by simpa using hi)

theorem run_good (cfg : NameCfg) (ns : List Bytes) : C02L.Good cfg ns (run cfg ns) := by
  obtain ⟨stf, h1, -, h3, h4⟩ := runFrom_spec cfg ns {} (C02L.inv_init cfg)
  exact ⟨stf, h1, h3, h4⟩

theorem run_length (cfg : NameCfg) (ns : List Bytes) : (run cfg ns).length = ns.length :=
  (run_good cfg ns).length

/-- **C02.consistent**: every occurrence of one input identifier gets the same output identifier. -/
theorem consistent (cfg : NameCfg) (ns : List Bytes) (i j : Nat) (hi : i < ns.length) (hj : j < ns.length)
    (h : ns[i] = ns[j]) : (run cfg ns)[i]? = (run cfg ns)[j]? :=
  (run_good cfg ns).consistent i j hi hj h

/-- **C02.injective**: two different input identifiers never become the same output identifier,
including when one of them is kept unchanged. -/
theorem injective (cfg : NameCfg) (ns : List Bytes) (i j : Nat) (hi : i < ns.length) (hj : j < ns.length)
    (h : ns[i] ≠ ns[j]) : (run cfg ns)[i]? ≠ (run cfg ns)[j]? :=
  (run_good cfg ns).injective i j hi hj h

/-- **C02.kept**: keywords, PICO-8 API names, names from the keep file and (with keep-all) all names are
left exactly as written. -/
theorem kept (cfg : NameCfg) (ns : List Bytes) (i : Nat) (hi : i < ns.length)
    (h : cfg.keepAll = true ∨ reserved cfg ns[i] = true) : (run cfg ns)[i]? = some ns[i] :=
  (run_good cfg ns).kept i hi h

/-- **C02.fresh**: a generated name is never a keyword, a reserved name or a kept name. -/
theorem fresh (cfg : NameCfg) (ns : List Bytes) (i : Nat) (hi : i < ns.length) (o : Bytes)
    (ho : (run cfg ns)[i]? = some o) (hne : o ≠ ns[i]) : reserved cfg o = false :=
  (run_good cfg ns).fresh i hi o ho hne

/-- non-vacuity: a keep file listing `a` and `b` forces the generator past them -/
example : run { keep := some [[97], [98]] } [[102, 111, 111], [98, 97, 114], [97], [98], [102, 111, 111]]
    = [[99], [100], [97], [98], [99]] := by decide +kernel

end Pico.C02
