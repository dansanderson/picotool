/-! Bytes, hex text, and lifting lemmas from finite tables to all bytes. (No Mathlib.) -/
namespace Pico

abbrev Byte := UInt8
abbrev Bytes := List UInt8

/-- A decidable predicate checked on the 256 byte values holds for all bytes. -/
theorem forall_u8 (p : UInt8 → Bool)
    (h : (List.range 256).all (fun n => p n.toUInt8) = true) : ∀ b, p b = true := by
  intro b
  rw [List.all_eq_true] at h
  have := h b.toNat (List.mem_range.mpr b.toNat_lt)
  simpa using this

/-- lower-case hex digit of a nibble (Python `format(b, '02x')`) -/
def hexDigit (n : Nat) : UInt8 :=
  if n < 10 then (48 + n).toUInt8 else (87 + n).toUInt8

/-- value of one hex digit as Python's `int(_, 16)` / `bytes.fromhex` accept it (both cases) -/
def unhexDigit (c : UInt8) : Option Nat :=
  if 48 ≤ c ∧ c ≤ 57 then some (c.toNat - 48)
  else if 97 ≤ c ∧ c ≤ 102 then some (c.toNat - 87)
  else if 65 ≤ c ∧ c ≤ 70 then some (c.toNat - 55)
  else none

/-- `bytes_to_hex` (util.py:137) -/
def toHex : Bytes → Bytes
  | [] => []
  | b :: bs => hexDigit (b.toNat / 16) :: hexDigit (b.toNat % 16) :: toHex bs

/-- `bytearray.fromhex` on a string without whitespace (`none` = ValueError) -/
def fromHex : Bytes → Option Bytes
  | [] => some []
  | [_] => none
  | a :: b :: rest => do
    let x ← unhexDigit a
    let y ← unhexDigit b
    let r ← fromHex rest
    pure ((x * 16 + y).toUInt8 :: r)

theorem unhex_hexDigit : ∀ n, n < 16 → unhexDigit (hexDigit n) = some n := by decide

theorem toUInt8_nibbles (b : UInt8) : (b.toNat / 16 * 16 + b.toNat % 16).toUInt8 = b := by
  rw [show b.toNat / 16 * 16 + b.toNat % 16 = b.toNat by omega]; simp

theorem fromHex_toHex (bs : Bytes) : fromHex (toHex bs) = some bs := by
  induction bs with
  | nil => rfl
  | cons b bs ih =>
    have hb := b.toNat_lt
    simp only [toHex, fromHex, ih, unhex_hexDigit _ (show b.toNat / 16 < 16 by omega),
      unhex_hexDigit _ (show b.toNat % 16 < 16 by omega), bind, Option.bind, pure, toUInt8_nibbles]

theorem toHex_length (bs : Bytes) : (toHex bs).length = 2 * bs.length := by
  induction bs with
  | nil => rfl
  | cons b bs ih => simp [toHex, ih]; omega

theorem toHex_append (a b : Bytes) : toHex (a ++ b) = toHex a ++ toHex b := by
  induction a with
  | nil => rfl
  | cons x xs ih => simp [toHex, ih]

end Pico
