import PicoVerif.Model.Accessors
import PicoVerif.Lemmas.Sections
/-! Helper lemmas for C17 (section accessors): the sfx and music setters in contract as `List.modify`s of single
bytes, the fields of the new byte by the bit-field lemmas of `Lemmas/Bits` (a note's by `getNote_set*` of
`Lemmas/Sections`); `set_sprite` and `set_rect_tiles` by induction, both read back through `rectVal`; `get_sprite` and
`get_rect_tiles` in contract as closed forms over the total readers `pix` and `cell`. -/
namespace Pico.C17
open Pico.Acc

def MG.WF (s : MG) : Prop := s.map.length = 0x1000 ∧ s.gfx.length = 0x2000

/-- the value (if any) a rectangle written at (x, y) puts into cell (qx, qy) -/
def rectVal (rect : List (List Nat)) (x y qx qy : Nat) : Option Nat :=
  if qx < x ∨ qy < y then none else
  match rect[qy - y]? with
  | none => none
  | some row => row[qx - x]?

/-- documented effect of `set_sprite`: the value (if any) the sprite paints at sheet pixel (qx, qy) -/
def painted (sprite : List (List Nat)) (fx fy qx qy : Nat) : Option Nat :=
  if qx < fx ∨ qy < fy then none else
  match sprite[qy - fy]? with
  | none => none
  | some row => match row[qx - fx]? with
    | some v => if v = 16 then none else some v
    | none => none

theorem painted_eq (sprite : List (List Nat)) (fx fy qx qy : Nat) :
    painted sprite fx fy qx qy = (rectVal sprite fx fy qx qy).filter (· ≠ 16) := by
  unfold painted rectVal
  split
  · rfl
  · cases sprite[qy - fy]? with
    | none => rfl
    | some row =>
      dsimp only
      cases row[qx - fx]? with
      | none => rfl
      | some v => by_cases hv : v = 16 <;> simp [Option.filter, hv]

/-! `rectVal` by rows and by cells; a single row is the rectangle `[row]`. -/

theorem rectVal_lt {rect : List (List Nat)} {x y qx qy : Nat} (h : qx < x ∨ qy < y) :
    rectVal rect x y qx qy = none := if_pos h

theorem rectVal_cons (row : List Nat) (g : List (List Nat)) (x y qx qy : Nat) :
    rectVal (row :: g) x y qx qy = if qy = y then rectVal [row] x y qx qy else rectVal g x (y + 1) qx qy := by
  unfold rectVal
  by_cases h : qy = y
  · subst h
    simp
  · by_cases h2 : qy < y
    · rw [if_neg h, if_pos (Or.inr h2), if_pos (Or.inr (by omega))]
    · rw [if_neg h, show qy - y = (qy - (y + 1)) + 1 by omega, List.getElem?_cons_succ]
      exact ite_cond_congr (propext (by omega))

theorem rectVal_row_ne (row : List Nat) {x y qx qy : Nat} (h : qy ≠ y) : rectVal [row] x y qx qy = none := by
  unfold rectVal
  split
  · rfl
  · rw [show qy - y = (qy - y - 1) + 1 by omega]
    rfl

theorem rectVal_row_nil (x y qx qy : Nat) : rectVal [[]] x y qx qy = none := by
  unfold rectVal
  split
  · rfl
  · cases qy - y <;> simp

theorem rectVal_row_cons (v : Nat) (r : List Nat) (x y qx qy : Nat) :
    rectVal [v :: r] x y qx qy = if qx = x ∧ qy = y then some v else rectVal [r] (x + 1) y qx qy := by
  by_cases hy : qy = y
  · subst hy
    simp only [rectVal, Nat.sub_self, List.getElem?_cons_zero, Nat.lt_irrefl, or_false, and_true]
    rcases Nat.lt_trichotomy qx x with h | h | h
    · rw [if_pos h, if_neg (by omega), if_pos (by omega)]
    · rw [if_neg (by omega), if_pos h, h, Nat.sub_self]
      rfl
    · rw [if_neg (by omega), if_neg (by omega), if_neg (by omega), show qx - x = qx - (x + 1) + 1 by omega]
      rfl
  · rw [rectVal_row_ne _ hy, if_neg (fun h => hy h.2), rectVal_row_ne _ hy]

end Pico.C17

namespace Pico.Acc
open Pico.Sections Pico.C17

theorem setAt_ok (l : Bytes) (i : Nat) (v : UInt8) (h : i < l.length) :
    setAt l i v = .ok (l.set i v) := by
  simp [setAt, h]

theorem getAt_ok (l : Bytes) (i : Nat) (h : i < l.length) : getAt l i = .ok l[i] := by
  simp [getAt, List.getElem?_eq_getElem h]

theorem getAt_of_getElem? (l : Bytes) (i : Nat) (b : UInt8) (h : l[i]? = some b) :
    getAt l i = .ok b := by
  simp [getAt, h]

theorem getAt_eq_getD (l : Bytes) (i : Nat) (h : i < l.length) : getAt l i = .ok (l.getD i 0) := by
  rw [getAt_ok l i h, List.getElem_eq_getD 0]

theorem getAt_set (l : Bytes) (i j : Nat) (v : UInt8) (hi : i < l.length) :
    getAt (l.set i v) j = if j = i then .ok v else getAt l j := by
  by_cases h : j = i
  · subst h
    rw [if_pos rfl]
    exact getAt_of_getElem? _ _ _ (List.getElem?_set_self hi)
  · rw [if_neg h]
    simp only [getAt, List.getElem?_set_ne (Ne.symm h)]

/-! A setter reads a byte and writes it back changed: `List.modify`. -/

theorem getAt_bind_setAt (l : Bytes) (i : Nat) (f : UInt8 → UInt8) (h : i < l.length) :
    (getAt l i >>= fun b => setAt l i (f b)) = .ok (l.modify i f) := by
  rw [modify_eq_set_getElem _ _ _ h, getAt_ok _ _ h]
  exact setAt_ok _ _ _ h

theorem getAt_modify (l : Bytes) (i j : Nat) (f : UInt8 → UInt8) :
    getAt (l.modify i f) j = (fun b => if i = j then f b else b) <$> getAt l j := by
  simp only [getAt, List.getElem?_modify]
  cases l[j]? <;> rfl

theorem chan_get (b : UInt8) (p : Nat) (hp : p < 128) :
    (((b &&& 0x80) ||| p.toUInt8) &&& 0x7f).toNat = p ∧
    ((b &&& 0x80) ||| p.toUInt8) &&& 0x80 = b &&& 0x80 := by
  have hv : p.toUInt8 &&& 0x7f = p.toUInt8 := toUInt8_and_low p 7 hp (by omega)
  refine ⟨?_, ins_and_kept (by decide) (and_eq_zero_of_disjoint hv (by decide))⟩
  rw [ins_and_cleared (by decide), hv, Nat.toUInt8_eq, UInt8.toNat_ofNat']
  omega

/-- the byte `setHigh` stores over `x` -/
def hiSet (x : UInt8) : Option Bool → UInt8
  | none => x
  | some f => (x &&& 0x7f) ||| (if f then 0x80 else 0)

theorem hiSet_low (x : UInt8) : ∀ o, hiSet x o &&& 0x7f = x &&& 0x7f
  | none => rfl
  | some f => by
    rw [hiSet, ins_and_kept (by decide)]
    cases f <;> decide

theorem hiSet_flag (x : UInt8) : ∀ o : Option Bool,
    decide ((hiSet x o &&& 0x80) > 0) = o.getD (decide ((x &&& 0x80) > 0))
  | none => rfl
  | some f => by
    rw [hiSet, ins_and_cleared (by decide), Option.getD_some]
    cases f <;> decide

theorem setHigh_eq (mus : Bytes) (i : Nat) (o : Option Bool) (hi : i < mus.length) :
    setHigh mus i o = .ok (mus.modify i (hiSet · o)) := by
  cases o with
  | none => exact congrArg _ (List.modify_id i mus).symm
  | some f => exact getAt_bind_setAt mus i _ hi

theorem musSetProps_eq (mus : Bytes) (id : Nat) (bg en st : Option Bool) (h : id * 4 + 2 < mus.length) :
    musSetProps mus id bg en st =
      .ok (((mus.modify (id * 4) (hiSet · bg)).modify (id * 4 + 1) (hiSet · en)).modify (id * 4 + 2) (hiSet · st)) := by
  rw [musSetProps, setHigh_eq mus _ bg (by omega), ok_bind, setHigh_eq _ _ en (by rw [List.length_modify]; omega),
    ok_bind, setHigh_eq _ _ st (by simpa using h)]

theorem setOpt_eq (l : Bytes) (i : Nat) (o : Option Nat) (hi : i < l.length) (ho : o.getD 0 ≤ 255) :
    setOpt l i o = .ok (l.modify i fun x => (o.map (·.toUInt8)).getD x) := by
  cases o with
  | none => exact congrArg _ (List.modify_id i l).symm
  | some v =>
    rw [modify_eq_set_getElem _ _ _ hi, setOpt, if_neg (by simpa using ho)]
    exact setAt_ok _ _ _ hi

theorem sfxSetProps_eq (sfx : Bytes) (id : Nat) (a b c d : Option Nat) (h : id * 68 + 67 < sfx.length)
    (ha : a.getD 0 ≤ 255) (hb : b.getD 0 ≤ 255) (hc : c.getD 0 ≤ 255) (hd : d.getD 0 ≤ 255) :
    sfxSetProps sfx id a b c d =
      .ok ((((sfx.modify (id * 68 + 64) fun x => (a.map (·.toUInt8)).getD x).modify
        (id * 68 + 65) fun x => (b.map (·.toUInt8)).getD x).modify
        (id * 68 + 66) fun x => (c.map (·.toUInt8)).getD x).modify
        (id * 68 + 67) fun x => (d.map (·.toUInt8)).getD x) := by
  rw [sfxSetProps, setOpt_eq sfx _ a (by omega) ha, ok_bind, setOpt_eq _ _ b (by rw [List.length_modify]; omega) hb,
    ok_bind, setOpt_eq _ _ c (by simp only [List.length_modify]; omega) hc, ok_bind,
    setOpt_eq _ _ d (by simpa using h) hd]

theorem sfxSetNote_eq (sfx : Bytes) (id note : Nat) (p w v e : Option Nat)
    (h1 : id * 68 + note * 2 + 1 < sfx.length)
    (hp : p.getD 0 ≤ 63) (hw : w.getD 0 ≤ 15) (hv : v.getD 0 ≤ 7) (he : e.getD 0 ≤ 7) :
    sfxSetNote sfx id note p w v e =
      .ok ((sfx.modify (id * 68 + note * 2) fun x => setWL (setP x p) w).modify (id * 68 + note * 2 + 1)
        fun x => setE (setV (setWM x w) v) e) := by
  have h0 : id * 68 + note * 2 < sfx.length := by omega
  have hn : ¬ (p.getD 0 > 63 ∨ w.getD 0 > 15 ∨ v.getD 0 > 7 ∨ e.getD 0 > 7) := by omega
  rw [modify_eq_set_getElem _ _ _ (by simpa using h1), List.getElem_modify_ne _ _ (by omega)]
  simp only [modify_eq_set_getElem _ _ _ h0]
  simp only [sfxSetNote, getAt_ok _ _ h0, getAt_ok _ _ h1, ok_bind, if_neg hn]
  rw [setAt_ok _ _ _ h0, ok_bind, setAt_ok _ _ _ (by simpa using h1)]
  rfl

def nib (b : UInt8) (px : Nat) : UInt8 :=
  if px % 2 = 0 then b &&& 0x0f else (b &&& 0xf0) >>> (4 : UInt8)

def putNib (b : UInt8) (px : Nat) (v : UInt8) : UInt8 :=
  if px % 2 = 0 then (b &&& 0xf0) + v else (b &&& 0x0f) + (v <<< (4 : UInt8))

theorem nib_putNib (b v : UInt8) (hv : v < 16) (p q : Nat) :
    nib (putNib b p v) q = if p % 2 = q % 2 then v else nib b q := by
  have hn : v.toNat < 16 := UInt8.lt_iff_toNat_lt.mp hv
  have h1 := toUInt8_and_low v.toNat 4 hn (by omega)
  obtain ⟨h2, h3, -⟩ := shl4_image v.toNat hn
  rw [Nat.toUInt8_eq (n := v.toNat), UInt8.ofNat_toNat] at h1 h2 h3
  unfold nib putNib
  rw [ins_add h1 (by decide), ins_add h2 (by decide)]
  rcases Nat.mod_two_eq_zero_or_one p with hp | hp <;> rcases Nat.mod_two_eq_zero_or_one q with hq | hq <;>
    simp only [hp, hq, ↓reduceIte, Nat.one_ne_zero, Nat.zero_ne_one]
  · exact (ins_and_cleared (by decide)).trans h1
  · rw [ins_and_kept (by decide) (and_eq_zero_of_disjoint h1 (by decide))]
  · exact ins_and_kept (by decide) (and_eq_zero_of_disjoint h2 (by decide))
  · rw [ins_and_cleared (by decide), h2, h3]

/-- a byte is its two nibbles, the pixels `2 * m` and `2 * m + 1` -/
theorem byte_eq_of_nibs (a b : UInt8) (m : Nat) (h0 : nib a (2 * m) = nib b (2 * m))
    (h1 : nib a (2 * m + 1) = nib b (2 * m + 1)) : a = b := by
  have e0 := congrArg UInt8.toNat h0
  have e1 := congrArg UInt8.toNat h1
  simp only [nib, Nat.mul_mod_right, Nat.mul_add_mod, Nat.one_mod, ↓reduceIte, Nat.one_ne_zero,
    and_low_toNat _ 0x0f 4 rfl, field_toNat _ 0xf0 4 4 4 rfl (by omega) rfl, Nat.reducePow] at e0 e1
  have ha := a.toNat_lt
  have hb := b.toNat_lt
  exact UInt8.toNat_inj.mp (by omega)

theorem pixelAt_of_getElem? (g : Bytes) (qx qy : Nat) (b : UInt8) (h : g[qy * 64 + qx / 2]? = some b) :
    pixelAt g qx qy = .ok (nib b qx) := by
  rw [pixelAt, getAt_of_getElem? _ _ _ h]
  rfl

/-- the total reader behind `pixelAt` -/
def pix (g : Bytes) (qx qy : Nat) : UInt8 := nib (g.getD (qy * 64 + qx / 2) 0) qx

theorem pixelAt_eq (g : Bytes) (qx qy : Nat) (hl : g.length = 0x2000) (hx : qx < 128) (hy : qy < 128) :
    pixelAt g qx qy = .ok (pix g qx qy) := by
  have h : qy * 64 + qx / 2 < g.length := by omega
  rw [pixelAt_of_getElem? g qx qy _ (List.getElem?_eq_getElem h), pix, List.getElem_eq_getD 0]

theorem setPixel_spec (gfx : Bytes) (px py : Nat) (v : UInt8) (hl : gfx.length = 0x2000)
    (hx : px < 128) (hy : py < 128) (hv : v < 16) :
    ∃ g', setPixel gfx px py v = .ok g' ∧ g'.length = 0x2000 ∧
      ∀ qx qy, qx < 128 → qy < 128 →
        pixelAt g' qx qy = if qx = px ∧ qy = py then .ok v else pixelAt gfx qx qy := by
  have hloc : py * 64 + px / 2 < gfx.length := by omega
  refine ⟨gfx.modify (py * 64 + px / 2) (putNib · px v), getAt_bind_setAt gfx _ _ hloc, by simpa using hl,
    fun qx qy hqx hqy => ?_⟩
  have hq : qy * 64 + qx / 2 < gfx.length := by omega
  rw [pixelAt_of_getElem? gfx qx qy _ (List.getElem?_eq_getElem hq),
    pixelAt_of_getElem? _ qx qy _ (by rw [List.getElem?_modify, List.getElem?_eq_getElem hq]; rfl)]
  dsimp only
  by_cases hsame : py * 64 + px / 2 = qy * 64 + qx / 2
  · rw [if_pos hsame, nib_putNib _ _ hv, apply_ite Except.ok]
    exact ite_cond_congr (propext (by omega))
  · rw [if_neg hsame, if_neg fun h => hsame (by rw [h.1, h.2])]


/-- the total reader behind `getCell` -/
def cell (s : MG) (x y : Nat) : UInt8 :=
  if y ≤ 31 then s.map.getD (y * 128 + x) 0 else s.gfx.getD (4096 + (y - 32) * 128 + x) 0

theorem getCell_eq (s : MG) (x y : Nat) (h : MG.WF s) (hx : x ≤ 127) (hy : y ≤ 63) :
    getCell s x y = .ok (cell s x y) := by
  obtain ⟨hm, hg⟩ := h
  unfold getCell cell
  rw [if_neg (by omega)]
  split
  · exact getAt_eq_getD _ _ (by omega)
  · exact getAt_eq_getD _ _ (by omega)

theorem setCell_spec (s : MG) (x y v : Nat) (h : MG.WF s) (hx : x ≤ 127) (hy : y ≤ 63) (hv : v ≤ 255) :
    ∃ s', setCell s x y v = .ok s' ∧ MG.WF s' ∧
      (∀ x' y', x' ≤ 127 → y' ≤ 63 →
        getCell s' x' y' = if x' = x ∧ y' = y then .ok v.toUInt8 else getCell s x' y') ∧
      (∀ i, i < 0x1000 → s'.gfx[i]? = s.gfx[i]?) := by
  obtain ⟨hm, hg⟩ := h
  have hn : ¬ (x > 127 ∨ y > 63 ∨ v > 255) := by omega
  by_cases hy31 : y ≤ 31
  · have hi : y * 128 + x < s.map.length := by omega
    refine ⟨{ s with map := s.map.set (y * 128 + x) v.toUInt8 }, ?_, ⟨List.length_set.trans hm, hg⟩,
      fun x' y' hx' hy' => ?_, fun i _ => rfl⟩
    · rw [setCell, if_neg hn, if_pos hy31, setAt_ok _ _ _ hi]
      rfl
    · simp only [getCell, if_neg (show ¬ (x' > 127 ∨ y' > 63) by omega)]
      by_cases h31 : y' ≤ 31
      · rw [if_pos h31, if_pos h31, getAt_set _ _ _ _ hi]
        exact ite_cond_congr (propext (by omega))
      · rw [if_neg h31, if_neg h31, if_neg (by omega)]
  · have hi : 4096 + (y - 32) * 128 + x < s.gfx.length := by omega
    refine ⟨{ s with gfx := s.gfx.set (4096 + (y - 32) * 128 + x) v.toUInt8 }, ?_, ⟨hm, List.length_set.trans hg⟩,
      fun x' y' hx' hy' => ?_, fun i hi' => List.getElem?_set_ne (by omega)⟩
    · rw [setCell, if_neg hn, if_neg hy31, setAt_ok _ _ _ hi]
      rfl
    · simp only [getCell, if_neg (show ¬ (x' > 127 ∨ y' > 63) by omega)]
      by_cases h31 : y' ≤ 31
      · rw [if_pos h31, if_pos h31, if_neg (by omega)]
      · rw [if_neg h31, if_neg h31, getAt_set _ _ _ _ hi]
        exact ite_cond_congr (propext (by omega))

/-! ### set_sprite, set_rect_tiles: what a grid of rows laid down from an offset shows at a position -/

/-- the `match` in the statements of `set_sprite` and `set_rect_tiles` -/
def orOk (o : Option Nat) (d : Except Err UInt8) : Except Err UInt8 :=
  match o with | some v => .ok v.toUInt8 | none => d

theorem setSpriteRow_spec (fx py : Nat) (row : List Nat) (x : Nat) (gfx : Bytes)
    (hl : gfx.length = 0x2000) (hv : ∀ v ∈ row, v ≤ 16) :
    ∃ g', setSpriteRow fx py row x gfx = .ok g' ∧ g'.length = 0x2000 ∧
      ∀ qx qy, qx < 128 → qy < 128 →
        pixelAt g' qx qy = orOk ((rectVal [row] (fx + x) py qx qy).filter (· ≠ 16)) (pixelAt gfx qx qy) := by
  fun_induction setSpriteRow fx py row x gfx with
  | case1 x gfx => exact ⟨gfx, rfl, hl, fun qx qy _ _ => by rw [rectVal_row_nil]; rfl⟩
  | case2 val rest x gfx h => exact absurd (hv val List.mem_cons_self) (by omega)
  | case3 val rest x gfx h hskip ih =>
    obtain ⟨g', e, l, f⟩ := ih hl (fun v h => hv v (List.mem_cons_of_mem _ h))
    refine ⟨g', e, l, fun qx qy hqx hqy => ?_⟩
    rw [f qx qy hqx hqy, rectVal_row_cons]
    split
    · rw [rectVal_lt (by omega), Option.filter_some_neg (by simp; omega)]
      rfl
    · rfl
  | case4 val rest x gfx h hskip ih =>
    obtain ⟨g1, e1, l1, f1⟩ := setPixel_spec gfx (fx + x) py val.toUInt8 hl (by omega) (by omega)
      (toUInt8_lt16 val (by omega))
    obtain ⟨g', e, l, f⟩ := ih g1 l1 (fun v h => hv v (List.mem_cons_of_mem _ h))
    refine ⟨g', by rw [e1]; exact e, l, fun qx qy hqx hqy => ?_⟩
    rw [f qx qy hqx hqy, f1 qx qy hqx hqy, rectVal_row_cons]
    split
    · rw [rectVal_lt (by omega), Option.filter_some_pos (by simp; omega)]
      rfl
    · rfl

theorem setSpriteRows_spec (fx fy : Nat) (rows : List (List Nat)) (y : Nat) (gfx : Bytes)
    (hl : gfx.length = 0x2000) (hv : ∀ row ∈ rows, ∀ v ∈ row, v ≤ 16) :
    ∃ g', setSpriteRows fx fy rows y gfx = .ok g' ∧ g'.length = 0x2000 ∧
      ∀ qx qy, qx < 128 → qy < 128 →
        pixelAt g' qx qy = orOk (painted rows fx (fy + y) qx qy) (pixelAt gfx qx qy) := by
  simp only [painted_eq]
  fun_induction setSpriteRows fx fy rows y gfx with
  | case1 y gfx => exact ⟨gfx, rfl, hl, fun qx qy _ _ => by simp [rectVal, orOk]⟩
  | case2 row rest y gfx ih =>
    obtain ⟨g1, e1, l1, f1⟩ := setSpriteRow_spec fx (fy + y) row 0 gfx hl (hv row List.mem_cons_self)
    obtain ⟨g', e, l, f⟩ := ih g1 l1 (fun r h => hv r (List.mem_cons_of_mem _ h))
    refine ⟨g', by rw [e1]; exact e, l, fun qx qy hqx hqy => ?_⟩
    rw [f qx qy hqx hqy, f1 qx qy hqx hqy, rectVal_cons row rest]
    split
    · rw [rectVal_lt (by omega)]
      rfl
    · rw [rectVal_row_ne row ‹_›]
      rfl

theorem setRectRow_spec (x ty : Nat) (row : List Nat) (dx : Nat) (s : MG) (h : MG.WF s) (hv : ∀ v ∈ row, v ≤ 255) :
    ∃ s', setRectRow x ty row dx s = .ok s' ∧ MG.WF s' ∧
      (∀ qx qy, qx ≤ 127 → qy ≤ 63 →
        getCell s' qx qy = orOk (rectVal [row] (dx + x) ty qx qy) (getCell s qx qy)) ∧
      (∀ i, i < 0x1000 → s'.gfx[i]? = s.gfx[i]?) := by
  fun_induction setRectRow x ty row dx s with
  | case1 dx s => exact ⟨s, rfl, h, fun qx qy _ _ => by rw [rectVal_row_nil]; rfl, fun _ _ => rfl⟩
  | case2 val rest dx s hskip ih =>
    obtain ⟨s', e, w, f, fr⟩ := ih h (fun v h => hv v (List.mem_cons_of_mem _ h))
    refine ⟨s', e, w, fun qx qy hqx hqy => ?_, fr⟩
    rw [f qx qy hqx hqy, rectVal_row_cons, if_neg (by omega), Nat.add_right_comm]
  | case3 val rest dx s hskip ih =>
    obtain ⟨s1, e1, w1, f1, fr1⟩ := setCell_spec s (dx + x) ty val h (by omega) (by omega) (hv val List.mem_cons_self)
    obtain ⟨s', e, w, f, fr⟩ := ih s1 w1 (fun v h => hv v (List.mem_cons_of_mem _ h))
    refine ⟨s', by rw [e1]; exact e, w, fun qx qy hqx hqy => ?_, fun i hi => (fr i hi).trans (fr1 i hi)⟩
    rw [f qx qy hqx hqy, f1 qx qy hqx hqy, rectVal_row_cons]
    split
    · rw [rectVal_lt (by omega)]
      rfl
    · rw [Nat.add_right_comm]

theorem setRectTiles_spec (x y : Nat) (rows : List (List Nat)) (dy : Nat) (s : MG) (h : MG.WF s)
    (hv : ∀ row ∈ rows, ∀ v ∈ row, v ≤ 255) :
    ∃ s', setRectTiles x y rows dy s = .ok s' ∧ MG.WF s' ∧
      (∀ qx qy, qx ≤ 127 → qy ≤ 63 →
        getCell s' qx qy = orOk (rectVal rows x (y + dy) qx qy) (getCell s qx qy)) ∧
      (∀ i, i < 0x1000 → s'.gfx[i]? = s.gfx[i]?) := by
  fun_induction setRectTiles x y rows dy s with
  | case1 dy s => exact ⟨s, rfl, h, fun qx qy _ _ => by simp [rectVal, orOk], fun _ _ => rfl⟩
  | case2 row rest dy s ih =>
    obtain ⟨s1, e1, w1, f1, fr1⟩ := setRectRow_spec x (dy + y) row 0 s h (hv row List.mem_cons_self)
    obtain ⟨s', e, w, f, fr⟩ := ih s1 w1 (fun r h => hv r (List.mem_cons_of_mem _ h))
    refine ⟨s', by rw [e1]; exact e, w, fun qx qy hqx hqy => ?_, fun i hi => (fr i hi).trans (fr1 i hi)⟩
    rw [f qx qy hqx hqy, f1 qx qy hqx hqy, Nat.zero_add, Nat.add_comm dy y, rectVal_cons row rest]
    split
    · rw [rectVal_lt (by omega)]
      rfl
    · rw [rectVal_row_ne row ‹_›]
      rfl

/-! ### get_rect_tiles, get_sprite in closed form -/

theorem getRectTiles_eq (s : MG) (x y w h : Nat) (hs : MG.WF s) (hx : x ≤ 127) (hw : 1 ≤ w) (hh : 1 ≤ h)
    (hy : y + h ≤ 64) :
    getRectTiles s x y w h = .ok ((List.range h).map fun dy => (List.range w).map fun dx =>
      if x + dx ≤ 127 then cell s (x + dx) (y + dy) else 0) := by
  rw [getRectTiles, if_neg (by omega)]
  refine mapM_ok_map _ fun dy hdy => mapM_ok_map _ fun dx _ => ?_
  have := List.mem_range.mp hdy
  by_cases hc : x + dx ≤ 127
  · rw [if_neg (by omega), if_pos hc, getCell_eq s _ _ hs hc (by omega)]
  · rw [if_pos (by omega), if_neg hc]

/-- what `get_sprite` shows of tile `t` of tile row `ty`: column `xo` of line `yo`; 0 off the sheet -/
def tilePix (gfx : Bytes) (ty yo t xo : Nat) : UInt8 :=
  if t > 15 ∨ ty > 15 then 0 else pix gfx (t * 8 + xo) (ty * 8 + yo)

theorem tile_add (a c : Nat) : (a + c / 8) * 8 + c % 8 = a * 8 + c := by
  rw [Nat.add_mul, Nat.add_assoc, Nat.div_add_mod']

theorem spriteRow_eq (gfx : Bytes) (ty yo : Nat) (hl : gfx.length = 0x2000) (hyo : yo < 8) : ∀ (tw tx : Nat),
    spriteRow gfx ty yo tw tx =
      .ok ((List.range' tx tw).flatMap fun t => (List.range 8).map (tilePix gfx ty yo t))
  | 0, tx => rfl
  | tw + 1, tx => by
    rw [spriteRow, spriteRow_eq gfx ty yo hl hyo tw (tx + 1), List.range'_succ, List.flatMap_cons]
    unfold tilePix
    split
    · rfl
    · rw [mapM_ok_map _ fun xo hxo => pixelAt_eq gfx _ _ hl (by have := List.mem_range.mp hxo; omega) (by omega)]
      rfl

theorem getSprite_eq (gfx : Bytes) (id tw th : Nat) (hl : gfx.length = 0x2000) (hid : id ≤ 255)
    (htw : 1 ≤ tw) (hth : 1 ≤ th) :
    getSprite gfx id tw th = .ok ((List.range (th * 8)).map fun r => (List.range (tw * 8)).map fun c =>
      tilePix gfx (id / 16 + r / 8) (r % 8) (id % 16 + c / 8) (c % 8)) := by
  rw [getSprite, if_neg (by omega),
    flatMap_range_map_range (fun dy yo => (id / 16 + dy, yo)) 8 th, List.mapM_map]
  refine mapM_ok_map _ fun r _ => ?_
  refine (spriteRow_eq gfx _ _ hl (Nat.mod_lt _ (by omega)) tw _).trans ?_
  rw [List.range'_eq_map_range, List.flatMap_map, flatMap_range_map_range (fun t xo => tilePix gfx _ _ (id % 16 + t) xo)]
end Pico.Acc
