import PicoVerif.Model.Build
import PicoVerif.Lemmas.Basic
import PicoVerif.Spec.EmptyCart
/-! Lemmas for C13: one iteration of `do_build`'s loop over the sections against `badArg` / `choice`, the loop, and
`doBuild` as a whole; the record lengths of the empty music and sound-effect regions. -/
namespace Pico.Build

theorem mem_secs {s : Sec} (h : s ≠ .label) : s ∈ secs := by
  cases s with
  | label => exact absurd rfl h
  | _ => decide

theorem step_spec (args : Sec → SecArg) (files : Nat → FileInfo) (e init : Cart) (x : Sec) :
    (badArg args files x = true → ∃ err, step args files e init x = .error err) ∧
    (badArg args files x = false →
      step args files e init x = .ok (fun t => if t = x then choice args files e (some init) x else init t)) := by
  unfold step badArg choice
  cases (args x).file with
  | some f =>
    cases h1 : (args x).empty <;> cases h2 : (files f).exists_ <;>
      cases h3 : ((files f).cartExt || (x == .lua && (files f).luaExt)) <;> simp [h2, h3]
  | none =>
    cases h1 : (args x).empty
    · exact ⟨nofun, fun _ => congrArg Except.ok (funext fun t => by by_cases ht : t = x <;> simp [ht])⟩
    · simp

theorem foldlM_step_ok (args : Sec → SecArg) (files : Nat → FileInfo) (e : Cart) :
    ∀ (l : List Sec) (init r : Cart), l.Nodup → l.foldlM (step args files e) init = .ok r →
      (∀ s ∈ l, badArg args files s = false) ∧
      ∀ s, r s = if s ∈ l then choice args files e (some init) s else init s := by
  intro l
  induction l with
  | nil =>
    intro init r _ h
    cases h
    simp
  | cons x xs ih =>
    intro init r hnd h
    simp only [List.foldlM_cons, bind, Except.bind] at h
    obtain ⟨hx, hxs⟩ := List.nodup_cons.mp hnd
    cases hb : badArg args files x with
    | true =>
      obtain ⟨err, herr⟩ := (step_spec args files e init x).1 hb
      rw [herr] at h; cases h
    | false =>
      rw [(step_spec args files e init x).2 hb] at h
      obtain ⟨hbad, hr⟩ := ih _ r hxs h
      refine ⟨fun s hs => (List.mem_cons.mp hs).elim (· ▸ hb) (hbad s), fun s => ?_⟩
      rw [hr s]
      by_cases hsx : s = x
      · subst hsx; simp [hx]
      · -- the choice for `s` looks at the cart only in section `s`, which the step for `x` left alone
        have : choice args files e (some fun t => if t = x then choice args files e (some init) x else init t) s
            = choice args files e (some init) s := by simp [choice, hsx]
        by_cases hm : s ∈ xs <;> simp [hm, hsx, this]

theorem doBuild_ok {outExtOk : Bool} {args : Sec → SecArg} {files : Nat → FileInfo} {e : Cart} {out : Option Cart} {r : Cart}
    (h : doBuild outExtOk args files e out = .ok r) :
    (∀ s ∈ secs, badArg args files s = false) ∧
    ∀ s, r s = if s ∈ secs then choice args files e out s else (out.getD e) s := by
  unfold doBuild at h
  split at h
  · cases h
  · exact foldlM_step_ok args files e secs (out.getD e) r (by decide) h

end Pico.Build

namespace Pico.Spec.Empty

theorem music_rows_length (n : Nat) : ∀ r ∈ List.replicate n musicPattern, r.length = 4 :=
  fun r hr => by rw [(List.mem_replicate.mp hr).2]; rfl

theorem sfx_rows_length (n : Nat) : ∀ r ∈ (List.range n).map sfxPattern, r.length = 68 := by
  intro r hr
  obtain ⟨i, -, rfl⟩ := List.mem_map.mp hr
  rw [sfxPattern, List.length_append, List.length_replicate]
  rfl

end Pico.Spec.Empty
