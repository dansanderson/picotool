import PicoVerif.Model.ReqWalk
import PicoVerif.Lemmas.C12
/-! Lemmas for the second part of C14: the walker against its specification (`walk` / `reqNodes`),
the lookup and the per-package step of `buildLua`. -/
namespace Pico.ReqWalk
open Pico.Lex Pico.Peg Pico.Gram Pico.Req Pico.Inc

theorem cut_throughFirstError (a b : List Call) :
    cut (throughFirstError a) (throughFirstError b) = throughFirstError (a ++ b) := by
  induction a with
  | nil => simp [throughFirstError, cut]
  | cons c a ih =>
    rw [List.cons_append, throughFirstError, throughFirstError]
    cases hc : isErr c with
    | true => simp [cut, hc]
    | false =>
      simp only [Bool.false_eq_true, if_false, ← ih, cut, List.any_cons, hc, Bool.false_or]
      split <;> rfl

theorem throughFirstError_idem (a : List Call) : throughFirstError (throughFirstError a) = throughFirstError a := by
  induction a with
  | nil => rfl
  | cons c a ih =>
    cases hc : isErr c with
    | true => simp [throughFirstError, hc]
    | false => simp [throughFirstError, hc, ih]

mutual
theorem walk_eq (toks : Array Tok) : ∀ t : Tree,
    walk toks t = throughFirstError ((reqNodes toks t).map (callOf toks))
  | .leaf _ => by simp [walk, reqNodes, throughFirstError]
  | .node k s e [] => by
    rw [walk, reqNodes]
    split
    · rfl
    · exact walkL_eq toks []
  | .node k s e (c :: args) => by
    rw [walk, reqNodes]
    split
    · split
      · simp [throughFirstError]
      · exact walkL_eq toks (c :: args)
    · exact walkL_eq toks (c :: args)
theorem walkL_eq (toks : Array Tok) : ∀ ts : List Tree,
    walkL toks ts = throughFirstError ((reqNodesL toks ts).map (callOf toks))
  | [] => by simp [walkL, reqNodesL, throughFirstError]
  | t :: ts => by
    rw [walkL, reqNodesL, List.map_append, ← cut_throughFirstError, walk_eq toks t, walkL_eq toks ts]
end

theorem worldOf_locate (fs : Files) (lp : Path.P) (p : Bytes) (cur f : Nat)
    (h : (worldOf fs lp).locate p cur = some f) :
    ∃ (curPath : Path.P) (src : List Bytes) (c : Path.P), fs[cur]? = some (curPath, src) ∧
      c ∈ requireCandidates (bytesToPath p) (Path.dirname curPath) lp ∧ fileIdx fs c = some f := by
  simp only [worldOf] at h
  split at h
  · cases h
  · rename_i curPath src hcur
    obtain ⟨c, hloc, hc⟩ := Option.bind_eq_some_iff.1 h
    exact ⟨curPath, src, c, hcur, locateRequire_mem _ _ _ _ _ hloc, hc⟩

/-- the step `buildLua` takes for each registered package, when it succeeds -/
theorem pkgBody_ok {fs : Files} {q : Pkg} {b : Bytes × Bytes}
    (h : (match fs[q.file]? with
      | none => (.error .notFound : Except Err (Bytes × Bytes))
      | some (_, src) => (packageCode q.keepLoop src).map fun toks => (q.name, Wr.echo toks)) = .ok b) :
    ∃ path psrc ptoks, fs[q.file]? = some (path, psrc) ∧ packageCode q.keepLoop psrc = .ok ptoks ∧
      b = (q.name, Wr.echo ptoks) := by
  split at h
  · cases h
  · rename_i path psrc hfile
    match hpc : packageCode q.keepLoop psrc, h with
    | .ok ptoks, rfl => exact ⟨path, psrc, ptoks, hfile, hpc, rfl⟩

end Pico.ReqWalk
