import PicoVerif.Lemmas.PegParses
/-! The significant tokens of a range of positions (`sigIdx`), `skipTrivia` in their terms, and coverage: the leaves of a
successful run are the significant tokens of the range it consumed. -/
namespace Pico.Peg
open Pico.Lex

def sig (toks : Array Tok) (i : Nat) : Bool := if h : i < toks.size then !toks[i].trivia else false

def sigIdx (toks : Array Tok) (a b : Nat) : List Nat := (List.range' a (b - a)).filter (sig toks)

theorem sig_iff (toks : Array Tok) (k : Nat) :
    sig toks k = true ↔ ∃ h : k < toks.size, toks[k].trivia = false := by
  unfold sig
  split <;> simp [*]

theorem mem_sigIdx (toks : Array Tok) (a b k : Nat) :
    k ∈ sigIdx toks a b ↔ a ≤ k ∧ k < b ∧ sig toks k = true := by
  unfold sigIdx
  rw [List.mem_filter, List.mem_range'_1]
  constructor
  · rintro ⟨⟨h1, h2⟩, h3⟩; exact ⟨h1, by omega, h3⟩
  · rintro ⟨h1, h2, h3⟩; exact ⟨⟨h1, by omega⟩, h3⟩

theorem sigIdx_eq_nil_iff (toks : Array Tok) (a b : Nat) :
    sigIdx toks a b = [] ↔ ∀ k, a ≤ k → k < b → sig toks k = false := by
  simp only [List.eq_nil_iff_forall_not_mem, mem_sigIdx, not_and, Bool.not_eq_true]

theorem sigIdx_self (toks : Array Tok) (a : Nat) : sigIdx toks a a = [] := by simp [sigIdx]

theorem sigIdx_one (toks : Array Tok) (i : Nat) : sigIdx toks i (i + 1) = if sig toks i then [i] else [] := by
  simp [sigIdx, List.filter_cons]

theorem sigIdx_append (toks : Array Tok) {a b c : Nat} (hab : a ≤ b) (hbc : b ≤ c) :
    sigIdx toks a b ++ sigIdx toks b c = sigIdx toks a c := by
  unfold sigIdx
  rw [← List.filter_append]
  congr 1
  have : c - a = (b - a) + (c - b) := by omega
  rw [this, ← List.range'_append_1]
  congr 2; omega

theorem skipTrivia_spec (toks : Array Tok) (i : Nat) :
    i ≤ skipTrivia toks i ∧ (∀ k, i ≤ k → k < skipTrivia toks i → sig toks k = false) ∧
      (skipTrivia toks i < toks.size → sig toks (skipTrivia toks i) = true) := by
  fun_induction skipTrivia toks i with
  | case1 i hi ht ih =>
    refine ⟨by omega, fun k h1 h2 => ?_, ih.2.2⟩
    rcases Nat.eq_or_lt_of_le h1 with rfl | h
    · simp [sig, hi, ht]
    · exact ih.2.1 k h h2
  | case2 i hi ht => exact ⟨Nat.le_refl _, fun k h1 h2 => by omega, fun _ => by simp [sig, hi, ht]⟩
  | case3 i hi => exact ⟨Nat.le_refl _, fun k h1 h2 => by omega, fun h => by omega⟩

theorem skipTrivia_ge (toks : Array Tok) (i : Nat) : i ≤ skipTrivia toks i := (skipTrivia_spec toks i).1

theorem skipTrivia_sig (toks : Array Tok) (i : Nat) (h : skipTrivia toks i < toks.size) :
    sig toks (skipTrivia toks i) = true := (skipTrivia_spec toks i).2.2 h

theorem sigIdx_skip (toks : Array Tok) (i : Nat) : sigIdx toks i (skipTrivia toks i) = [] :=
  (sigIdx_eq_nil_iff ..).2 (skipTrivia_spec toks i).2.1

theorem skipTrivia_le_of_sig (toks : Array Tok) (pos j : Nat) (hs : sig toks j = true) (hpos : pos ≤ j) :
    skipTrivia toks pos ≤ j :=
  Nat.le_of_not_lt fun h => Bool.false_ne_true (((skipTrivia_spec toks pos).2.1 j hpos h).symm.trans hs)

theorem sigIdx_tok (toks : Array Tok) (i : Nat) (h : skipTrivia toks i < toks.size) :
    sigIdx toks i (skipTrivia toks i + 1) = [skipTrivia toks i] := by
  rw [← sigIdx_append toks (skipTrivia_ge toks i) (Nat.le_succ _), sigIdx_skip, sigIdx_one, skipTrivia_sig toks i h]
  rfl

theorem sigIdx_eq_nil_of_skip (toks : Array Tok) (p q : Nat) (h : skipTrivia toks p ≥ toks.size) :
    sigIdx toks p q = [] := by
  rw [sigIdx_eq_nil_iff]
  intro k h1 _
  refine Bool.eq_false_iff.mpr fun hs => ?_
  have := skipTrivia_le_of_sig toks p k hs h1
  have := ((sig_iff toks k).1 hs).1
  omega

theorem sigIdx_eq_nil_of_size_le (toks : Array Tok) (a b : Nat) (h : toks.size ≤ a) : sigIdx toks a b = [] :=
  sigIdx_eq_nil_of_skip toks a b (Nat.le_trans h (skipTrivia_ge toks a))

theorem sigIdx_to_size (toks : Array Tok) (a p : Nat) (hap : a ≤ p) (h : skipTrivia toks p ≥ toks.size) :
    sigIdx toks a p = sigIdx toks a toks.size := by
  rcases Nat.le_total p toks.size with hp | hp
  · rw [← sigIdx_append toks hap hp, sigIdx_eq_nil_of_skip toks p _ h, List.append_nil]
  · rcases Nat.le_total a toks.size with ha | ha
    · rw [← sigIdx_append toks ha hp, sigIdx_eq_nil_of_size_le toks _ _ (Nat.le_refl _), List.append_nil]
    · rw [sigIdx_eq_nil_of_size_le toks _ _ ha, sigIdx_eq_nil_of_size_le toks _ _ ha]

def Cover (toks : Array Tok) (st : PSt) (ts : List Tree) (st' : PSt) : Prop :=
  st.pos ≤ st'.pos ∧ leavesL ts = sigIdx toks st.pos st'.pos

theorem Cover.trans {toks : Array Tok} {s1 s2 s3 : PSt} {t1 t2 : List Tree}
    (h1 : Cover toks s1 t1 s2) (h2 : Cover toks s2 t2 s3) : Cover toks s1 (t1 ++ t2) s3 := by
  refine ⟨Nat.le_trans h1.1 h2.1, ?_⟩
  rw [leavesL_append, h1.2, h2.2, sigIdx_append toks h1.1 h2.1]

theorem Cover.refl (toks : Array Tok) (st : PSt) : Cover toks st [] st :=
  ⟨Nat.le_refl _, by simp [leavesL, sigIdx_self]⟩

theorem Cover.reparent {toks : Array Tok} {s1 s2 s3 : PSt} {t1 t2 : List Tree}
    (h1 : Cover toks s1 t1 s2) (h2 : Cover toks s2 t2 s3) : Cover toks s1 (reparent t1 t2) s3 :=
  ⟨(h1.trans h2).1, by rw [leavesL_reparent, ← leavesL_append]; exact (h1.trans h2).2⟩

/-- a successful run covers the range it consumed; the loop extends whatever range its accumulator covers -/
theorem Parses.cover {gram : Nat → G} {toks : Array Tok} {j st ts st'} (h : Parses gram toks j st ts st') :
    match j with
    | .run _ => Cover toks st ts st'
    | .loop _ acc => ∀ st0, Cover toks st0 acc st → Cover toks st0 ts st' := by
  induction h with
  | eps | starNil | prevTokIs | notAhead => exact Cover.refl _ _
  | @tok _ st h _ _ =>
    exact ⟨Nat.le_succ_of_le (skipTrivia_ge toks st.pos), (leavesL_leaf _).trans (sigIdx_tok toks st.pos h).symm⟩
  | seq _ _ ih1 ih2 | starCons _ _ _ ih1 ih2 => exact ih1.trans ih2
  | altL _ ih | altR _ ih | starOne _ ih | nt _ ih | hard _ ih | fence _ ih | filterTop _ _ ih => exact ih
  | node _ ih => exact ⟨ih.1, (leavesL_node ..).trans ih.2⟩
  | chain _ _ ih1 ih2 => exact ih2 _ ih1
  | loopStop => exact fun _ h => h
  | loopStep _ _ ih1 ih2 => exact fun _ h => ih2 _ (h.reparent ih1)

end Pico.Peg
