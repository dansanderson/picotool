import PicoVerif.Lemmas.C01Min
import PicoVerif.Props.C02
/-! Renaming for C01: the minifier writes what the name-keeping writer writes for the renamed token list
(`minify_rename`), the renamed list is again a well-formed token list, and so `C01L.main_run` gives the
end-to-end statement `minify_relex_of_fusFree`. -/
namespace Pico.C01
open Pico.Lex

/-- what one significant token must read back as: names and labels renamed by `f`, everything else identical
(numbers by spelling, strings by decoded value and quote kind) -/
def renameTok (f : Bytes → Bytes) (t : Tok) : Tok :=
  if t.kind = .name then { t with data := f t.data }
  else if t.kind = .label then { t with data := [58, 58] ++ f ((t.data.drop 2).take (t.data.length - 4)) ++ [58, 58] }
  else t

end Pico.C01

namespace Pico.C01L
open Pico.Lex Pico.Wr
open Pico.C01 (renameTok sigToks)
open Pico.C02L (Ext fOf)

theorem nameChars_identStart : ∀ i, i < 26 → isIdentStart (Gen.nameChars.getD i 0) = true := by decide +kernel

theorem nameForId_all (id : Nat) : ∀ b ∈ nameForId id, isIdentStart b = true := by
  induction id using Nat.strongRecOn with
  | _ id ih =>
    rw [C02L.nameForId_eq]
    split
    · intro b hb
      rcases List.mem_append.mp hb with hb | hb
      · exact ih (id / 26) (Nat.div_lt_self (by omega) (by omega)) b hb
      · simp only [List.mem_singleton] at hb; subst hb
        exact nameChars_identStart _ (Nat.mod_lt _ (by omega))
    · intro b hb
      simp only [List.mem_singleton] at hb; subst hb
      exact nameChars_identStart _ (Nat.mod_lt _ (by omega))

theorem nameForId_nameLike (cfg : NameCfg) (k : Nat) (hr : reserved cfg (nameForId k) = false) :
    NameLike (nameForId k) := by
  refine ⟨C02L.nameForId_ne_nil k, ?_, fun b hb => by simp [isIdentChar, nameForId_all k b hb], ?_⟩
  · intro c hc
    exact nameForId_all k c (List.mem_of_mem_head? hc)
  · intro hmem
    have := C02.tables_ok.2.2.1
    rw [LexL.kw_eq, List.all_eq_true] at this
    have hp := this _ hmem
    simp only [reserved, hp, Bool.true_or] at hr
    cases hr

def finalSt (cfg : NameCfg) (st : MinSt) (toks : List Tok) : MinSt :=
  toks.foldl (fun s t => (minStep cfg s t).1) st

theorem minStep_names (cfg : NameCfg) (st : MinSt) (t : Tok) :
    (minStep cfg st t).1.names = namesAfter cfg st.names t := by
  rcases trivia_cases t with htr | ⟨-, hk | hk | hk⟩
  · rw [minStep_sig cfg st t htr]
  · rw [minStep_space cfg st t hk]; simp [namesAfter, hk]
  · rw [minStep_newline cfg st t hk]; simp [namesAfter, hk]
  · rw [minStep_comment cfg st t hk]; split <;> simp [namesAfter, hk]

theorem minStep_names_inv (cfg : NameCfg) (st : MinSt) (t : Tok) (hinv : C02L.Inv cfg st.names) :
    C02L.Inv cfg (minStep cfg st t).1.names ∧ Ext st.names (minStep cfg st t).1.names := by
  rw [minStep_names]
  unfold namesAfter
  split
  · exact ⟨(C02L.step_spec cfg _ _ hinv).1, (C02L.step_spec cfg _ _ hinv).2.1⟩
  · split
    · exact ⟨(C02L.step_spec cfg _ _ hinv).1, (C02L.step_spec cfg _ _ hinv).2.1⟩
    · exact ⟨hinv, C02L.Ext.refl _⟩

theorem finalSt_spec (cfg : NameCfg) : ∀ (toks : List Tok) (st : MinSt), C02L.Inv cfg st.names →
    C02L.Inv cfg (finalSt cfg st toks).names ∧ Ext st.names (finalSt cfg st toks).names
  | [], _, h => ⟨h, C02L.Ext.refl _⟩
  | t :: rest, st, h =>
    have h1 := minStep_names_inv cfg st t h
    have h2 := finalSt_spec cfg rest _ h1.1
    ⟨h2.1, h1.2.trans h2.2⟩

theorem getShortName_fOf (cfg : NameCfg) (ns nf : NameSt) (n : Bytes) (hinv : C02L.Inv cfg ns)
    (he : Ext (getShortName cfg ns n).1 nf) : (getShortName cfg ns n).2 = fOf cfg nf n :=
  ((C02L.step_spec cfg ns n hinv).2.2.mono he).eq_fOf

theorem renameTok_kind (f : Bytes → Bytes) (t : Tok) : (renameTok f t).kind = t.kind := by
  unfold renameTok; split; · rfl
  split <;> rfl

theorem renameTok_other (f : Bytes → Bytes) (t : Tok) (h1 : t.kind ≠ .name) (h2 : t.kind ≠ .label) : renameTok f t = t := by
  simp [renameTok, h1, h2]

theorem renameTok_label (f : Bytes → Bytes) (t : Tok) (hk : t.kind = .label) :
    renameTok f t = { t with data := [58, 58] ++ f (inner t.data) ++ [58, 58] } := by
  simp [renameTok, hk, inner]

theorem renameTok_nkn (f : Bytes → Bytes) (t : Tok) : nkn (renameTok f t) = nkn t := by simp [nkn, renameTok_kind]

theorem renameTok_wordAfter (f : Bytes → Bytes) (t : Tok) : wordAfter (renameTok f t) = wordAfter t := by
  unfold wordAfter
  rw [renameTok_nkn, renameTok_kind]
  split
  · rfl
  · next h1 =>
    split
    · rfl
    · next h2 => rw [renameTok_other f t (fun h => h1 (by simp [nkn, h])) h2]

theorem written_rename (cfg : NameCfg) (ns nf : NameSt) (t : Tok) (hinv : C02L.Inv cfg ns)
    (he : Ext (namesAfter cfg ns t) nf) : written cfg ns t = (renameTok (fOf cfg nf) t).code := by
  unfold written
  unfold namesAfter at he
  split
  · next hk =>
    rw [if_pos hk] at he
    rw [code_plain _ (by simp [renameTok_kind, hk]), getShortName_fOf cfg ns nf _ hinv he]
    simp [renameTok, hk]
  · next hk1 =>
    split
    · next hk =>
      rw [if_neg hk1, if_pos hk] at he
      rw [code_plain _ (by simp [renameTok_kind, hk]), getShortName_fOf cfg ns nf _ hinv he, renameTok_label _ t hk]
    · next hk => rw [renameTok_other _ t hk1 hk]

def SameBut (a b : MinSt) : Prop :=
  b.lastNKN = a.lastNKN ∧ b.lastNL = a.lastNL ∧ b.hdr = a.hdr ∧ b.seenCode = a.seenCode

theorem minStep_rename (cfg : NameCfg) (nf : NameSt) (st st' : MinSt) (t : Tok) (hs : SameBut st st')
    (hinv : C02L.Inv cfg st.names) (hext : Ext (minStep cfg st t).1.names nf) :
    (minStep cfg st t).2 = (minStep kcfg st' (renameTok (fOf cfg nf) t)).2 ∧
      SameBut (minStep cfg st t).1 (minStep kcfg st' (renameTok (fOf cfg nf) t)).1 := by
  rw [minStep_names] at hext
  obtain ⟨h1, h2, h3, h4⟩ := hs
  rcases trivia_cases t with htr | ⟨-, hk | hk | hk⟩
  · rw [minStep_sig cfg st t htr, minStep_sig kcfg st' _ (by rw [Tok.trivia, renameTok_kind]; exact htr),
      written_keep _ _ (fun hk => by rw [renameTok_kind] at hk; rw [renameTok_label _ t hk, inner_label]),
      ← written_rename cfg st.names nf t hinv hext, renameTok_nkn, renameTok_wordAfter, h1]
    exact ⟨rfl, rfl, rfl, h3, rfl⟩
  · rw [renameTok_other _ t (by simp [hk]) (by simp [hk]), minStep_space _ _ _ hk, minStep_space _ _ _ hk]
    exact ⟨rfl, h1, h2, h3, h4⟩
  · rw [renameTok_other _ t (by simp [hk]) (by simp [hk]), minStep_newline _ _ _ hk, minStep_newline _ _ _ hk, h2]
    exact ⟨rfl, rfl, rfl, h3, h4⟩
  · rw [renameTok_other _ t (by simp [hk]) (by simp [hk]), minStep_comment _ _ _ hk, minStep_comment _ _ _ hk, h3, h4]
    split
    · exact ⟨rfl, h1, h2, rfl, rfl⟩
    · exact ⟨rfl, h1, h2, h3, h4⟩

/-- renaming factors out: what the minifier writes is what the name-keeping minifier writes for the renamed tokens -/
theorem minChunks_rename (cfg : NameCfg) (nf : NameSt) : ∀ (toks : List Tok) (st st' : MinSt), SameBut st st' →
    C02L.Inv cfg st.names → Ext (finalSt cfg st toks).names nf →
    minChunks cfg st toks = minChunks kcfg st' (toks.map (renameTok (fOf cfg nf))) := by
  intro toks
  induction toks with
  | nil => intro _ _ _ _ _; rfl
  | cons t rest ih =>
    intro st st' hs hinv hext
    obtain ⟨hinv', -⟩ := minStep_names_inv cfg st t hinv
    obtain ⟨h1, h2⟩ := minStep_rename cfg nf st st' t hs hinv
      ((finalSt_spec cfg rest _ hinv').2.trans hext)
    simp only [minChunks, List.map_cons, h1, ih _ _ h2 hinv' hext]

theorem minify_rename (cfg : NameCfg) (toks : List Tok) :
    minify cfg toks = minify kcfg (toks.map (renameTok (fOf cfg (finalSt cfg {} toks).names))) := by
  simp only [minify]
  rw [minChunks_rename cfg _ toks {} {} ⟨rfl, rfl, rfl, rfl⟩ (C02L.inv_init cfg) (C02L.Ext.refl _)]

theorem fOf_cases (cfg : NameCfg) (nf : NameSt) (hinv : C02L.Inv cfg nf) (n : Bytes) :
    fOf cfg nf n = n ∨ NameLike (fOf cfg nf n) := by
  unfold fOf
  split
  · exact Or.inl rfl
  · cases hl : C02L.lookup nf n with
    | none => exact Or.inl rfl
    | some v =>
      obtain ⟨hr, k, -, rfl⟩ := hinv.1 n v hl
      exact Or.inr (nameForId_nameLike cfg k hr)

theorem WF.rename (cfg : NameCfg) (nf : NameSt) (hinv : C02L.Inv cfg nf) (t : Tok) (h : WF t) :
    WF (renameTok (fOf cfg nf) t) := by
  by_cases hk1 : t.kind = .name
  · rw [show renameTok (fOf cfg nf) t = { t with data := fOf cfg nf t.data } by simp [renameTok, hk1]]
    refine ⟨?_, ?_, ?_, ?_, ?_, ?_, ?_, ?_⟩ <;> intro hk <;> simp only [hk1, reduceCtorEq] at hk
    · exact h.plain (by simp [hk1])
    · rcases fOf_cases cfg nf hinv t.data with e | e
      · simp only [e]; exact h.name hk1
      · exact Or.inr e
  by_cases hk2 : t.kind = .label
  · rw [renameTok_label _ t hk2]
    refine ⟨?_, ?_, ?_, ?_, ?_, ?_, ?_, ?_⟩ <;> intro hk <;> simp only [hk2, reduceCtorEq] at hk
    · exact h.plain (by simp [hk2])
    · obtain ⟨-, hid⟩ := labelOK_inner t.data (h.label hk2)
      have hid' : IdLike (fOf cfg nf (inner t.data)) := by
        rcases fOf_cases cfg nf hinv (inner t.data) with e | e
        · rw [e]; exact hid
        · exact e.idLike
      exact ⟨_, rfl, hid'.ne, hid'.start, hid'.all⟩
  · rw [renameTok_other _ t hk1 hk2]; exact h

theorem FusFree.map (f : Bytes → Bytes) (l : List Tok) (h : FusFree l) : FusFree (l.map (renameTok f)) := by
  intro i a b ha hb hsa hsb
  rw [List.getElem?_map, Option.map_eq_some_iff] at ha hb
  obtain ⟨a, ha, rfl⟩ := ha
  obtain ⟨b, hb, rfl⟩ := hb
  rw [renameTok_kind] at hsa hsb
  rw [renameTok_other f a (by rcases hsa with e | e <;> simp [e]) (by rcases hsa with e | e <;> simp [e]),
    renameTok_other f b (by rcases hsb with e | e <;> simp [e]) (by rcases hsb with e | e <;> simp [e])]
  exact h i a b ha hb hsa hsb

theorem sigToks_map_renameTok (f : Bytes → Bytes) (l : List Tok) : sigToks (l.map (renameTok f)) = (sigToks l).map (renameTok f) := by
  simp only [sigToks, List.filter_map]
  rw [show ((fun t => !t.trivia) ∘ renameTok f) = (fun t : Tok => !t.trivia) from
    funext fun t => by simp [Tok.trivia, renameTok_kind]]

/-- C01 end to end, in terms of the helper notions of this file and `C01Min` -/
theorem minify_relex_of_fusFree (cfg : NameCfg) (src : Bytes) (toks : List Tok) (hl : lex [src] = .ok toks)
    (hff : FusFree (sigToks toks)) :
    ∃ out f, lex [minify cfg toks] = .ok out ∧
      (sigToks out).map core = (sigToks toks).map (fun t => core (renameTok f t)) := by
  have hinvf := (finalSt_spec cfg toks {} (C02L.inv_init cfg)).1
  have hwf : ∀ t ∈ toks.map (renameTok (fOf cfg (finalSt cfg {} toks).names)), WF t := by
    intro t ht
    obtain ⟨t0, h0, rfl⟩ := List.mem_map.mp ht
    exact WF.rename cfg _ hinvf t0 (lex_wf src toks hl t0 h0)
  have hrun := main_run _ {} [] hwf
    (by rw [sigToks_map_renameTok]; exact FusFree.map _ _ hff)
  obtain ⟨out, ho, hs⟩ := lex_of_SpecRun hrun
  exact ⟨out, fOf cfg (finalSt cfg {} toks).names, by rw [minify_rename]; exact ho,
    by rw [hs, sigToks_map_renameTok, List.map_map]; rfl⟩

end Pico.C01L
