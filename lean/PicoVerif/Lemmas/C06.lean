import PicoVerif.Model.Writers
import PicoVerif.Lemmas.LexMachine
/-! Helper lemmas for C06 (echo writer / lexer string loop / token cover). -/
namespace Pico.C06
open Pico.Lex

/-- the source text `r` a token may have been read from: for every token but a quoted string it is the
token's `code` (what the echo writer emits), for a quoted string it is `q body q` whose body the lexer's
string loop decodes to the token's data, ending exactly at the closing quote -/
def RawOf (t : Tok) (r : Bytes) : Prop :=
  if t.kind = .string ∧ t.mlq = none then
    ∃ q body, t.quote = some q ∧ (q = 34 ∨ q = 39) ∧ r = q :: body ++ [q] ∧
      strLoop q (body.length + 2) (body ++ [q]) [] 0 = .ok (true, t.data, body.length + 1)
  else r = t.code

end Pico.C06

namespace Pico.C06L
open Pico.Lex Pico.Spec.Lex Pico.LexL Pico.C06

def hdDigit : Bytes → Bool
  | d :: _ => isDigit d
  | [] => false

/-- the spelling `escapeBody` emits for one byte, given whether a digit follows -/
def piece (q c : UInt8) (nd : Bool) : Bytes :=
  match lookup Gen.stringReverseEscapes [c] with
  | some esc =>
    92 :: (if esc.all isDigit && !esc.isEmpty && nd then List.replicate (3 - esc.length) 48 ++ esc else esc)
  | none => if c = q then [92, c] else [c]

theorem escapeBody_cons (q c : UInt8) (rest : Bytes) :
    escapeBody q (c :: rest) = piece q c (hdDigit rest) ++ escapeBody q rest := by
  cases rest <;> simp only [escapeBody, piece, hdDigit] <;>
    cases lookup Gen.stringReverseEscapes [c] <;> rfl

/-- `rev` in the names below is `Gen.stringReverseEscapes`: an entry `([c], v)` of it is one of the three decimal
spellings, or a one-letter escape that the reference grammar reads back as `c`; no key is a digit -/
def revEntryOK (kv : Bytes × Bytes) : Bool :=
  match kv.1 with
  | [c] => !isDigit c &&
    (match kv.2 with
     | [x] => (c == 0 && x == 48) || (!isDigit x && x != 120 && Spec.Lex.escape [x] == some ([c], 1))
     | v => (c == 14 && v == [49, 52]) || (c == 15 && v == [49, 53]))
  | _ => false

/-- one pass over the entries of the table, not over the 256 bytes -/
theorem rev_table_ok : Gen.stringReverseEscapes.all revEntryOK = true := by decide +kernel

theorem rev_entry {c : UInt8} {v : Bytes} (h : lookup Gen.stringReverseEscapes [c] = some v) :
    revEntryOK ([c], v) = true := by
  simp only [lookup, Option.map_eq_some_iff] at h
  obtain ⟨⟨k, v'⟩, hf, rfl⟩ := h
  have hk : k = [c] := by simpa using List.find?_some hf
  exact hk ▸ List.all_eq_true.mp rev_table_ok _ (List.mem_of_find?_eq_some hf)

theorem rev_class (c : UInt8) :
    (lookup Gen.stringReverseEscapes [c] = none ∧ c ≠ 92) ∨
    (∃ x, lookup Gen.stringReverseEscapes [c] = some [x] ∧ isDigit x = false ∧ x ≠ 120 ∧
      Spec.Lex.escape [x] = some ([c], 1)) ∨
    (c = 0 ∧ lookup Gen.stringReverseEscapes [c] = some [48]) ∨
    (c = 14 ∧ lookup Gen.stringReverseEscapes [c] = some [49, 52]) ∨
    (c = 15 ∧ lookup Gen.stringReverseEscapes [c] = some [49, 53]) := by
  cases h : lookup Gen.stringReverseEscapes [c] with
  | none =>
    refine Or.inl ⟨rfl, ?_⟩
    rintro rfl
    rw [show lookup Gen.stringReverseEscapes [92] = some [92] by decide] at h
    cases h
  | some v =>
    have := rev_entry h
    simp only [revEntryOK, Bool.and_eq_true] at this
    match v, this.2 with
    | [x], this =>
      simp only [Bool.and_eq_true, Bool.or_eq_true, beq_iff_eq, bne_iff_ne, ne_eq, Bool.not_eq_true'] at this
      rcases this with ⟨rfl, rfl⟩ | ⟨⟨hx1, hx2⟩, hx3⟩
      · exact Or.inr (Or.inr (Or.inl ⟨rfl, rfl⟩))
      · exact Or.inr (Or.inl ⟨x, rfl, hx1, hx2, hx3⟩)
    | [], this => simp at this
    | x :: y :: w, this =>
      simp only [Bool.or_eq_true, Bool.and_eq_true, beq_iff_eq] at this
      rcases this with ⟨rfl, hv⟩ | ⟨rfl, hv⟩
      · exact Or.inr (Or.inr (Or.inr (Or.inl ⟨rfl, by rw [hv]⟩)))
      · exact Or.inr (Or.inr (Or.inr (Or.inr ⟨rfl, by rw [hv]⟩)))

theorem digit_rev (c : UInt8) (h : isDigit c = true) : lookup Gen.stringReverseEscapes [c] = none := by
  cases hl : lookup Gen.stringReverseEscapes [c] with
  | none => rfl
  | some v => have := rev_entry hl; simp [revEntryOK, h] at this

theorem escape_single (x : UInt8) (t : Bytes) (h1 : isDigit x = false) (h2 : x ≠ 120) :
    Spec.Lex.escape (x :: t) = Spec.Lex.escape [x] := by
  simp [Spec.Lex.escape, h1, h2]

theorem hdDigit_false_takeWhile (t : Bytes) (h : hdDigit t = false) : t.takeWhile isDigit = [] := by
  cases t with
  | nil => rfl
  | cons d t => simp [hdDigit] at h; simp [h]

theorem hdDigit_true (t : Bytes) (h : hdDigit t = true) : ∃ d t', t = d :: t' ∧ isDigit d = true := by
  cases t with
  | nil => simp [hdDigit] at h
  | cons d t => exact ⟨d, t, rfl, by simpa [hdDigit] using h⟩

theorem quoted_piece (q : UInt8) (hq : q = 34 ∨ q = 39) (c : UInt8) (t acc : Bytes) (n fuel : Nat) :
    quoted q (fuel + 1) (piece q c (hdDigit t) ++ t) acc n
      = quoted q fuel t (acc ++ [c]) (n + (piece q c (hdDigit t)).length) := by
  have hq92 : (92 : UInt8) ≠ q := by rcases hq with rfl | rfl <;> decide
  rcases rev_class c with ⟨h, hc⟩ | ⟨x, h, hx1, hx2, hx3⟩ | ⟨rfl, h⟩ | ⟨rfl, h⟩ | ⟨rfl, h⟩
  · simp only [piece, h]
    by_cases hcq : c = q
    · subst hcq
      have : Spec.Lex.escape (c :: t) = some ([c], 1) := by
        rcases hq with rfl | rfl <;> simp [Spec.Lex.escape, isDigit]
      simp [quoted, hq92, this]
    · simp [quoted, hcq, hc]
  · simp only [piece, h]
    simp [quoted, hq92, hx1, escape_single x t hx1 hx2, hx3]
  -- the three decimal spellings `\0`, `\14`, `\15`, padded to three digits when a digit follows
  all_goals
    simp only [piece, h]
    cases ht : hdDigit t
    · have := hdDigit_false_takeWhile t ht
      simp [quoted, hq92, Spec.Lex.escape, isDigit, this, decToNat]
    · obtain ⟨d, t', rfl, -⟩ := hdDigit_true t ht
      simp [quoted, hq92, Spec.Lex.escape, isDigit, List.takeWhile_cons, decToNat]

theorem piece_length_pos (q c : UInt8) (nd : Bool) : 0 < (piece q c nd).length := by
  unfold piece; split
  · simp
  · split <;> simp

theorem hdDigit_piece (q : UInt8) (hq : q = 34 ∨ q = 39) (c : UInt8) (nd : Bool) (t : Bytes) :
    hdDigit (piece q c nd ++ t) = isDigit c := by
  by_cases hd : isDigit c = true
  · have hcq : c ≠ q := by rintro rfl; rcases hq with rfl | rfl <;> simp [isDigit] at hd
    simp [piece, digit_rev c hd, hcq, hdDigit]
  · simp only [Bool.not_eq_true] at hd
    have h92 : isDigit 92 = false := by decide
    unfold piece; split
    · simp [hdDigit, h92, hd]
    · split <;> simp [hdDigit, h92, hd]

theorem hdDigit_escapeBody (q : UInt8) (hq : q = 34 ∨ q = 39) (v next : Bytes) :
    hdDigit (escapeBody q v ++ q :: next) = hdDigit v := by
  cases v with
  | nil => rcases hq with rfl | rfl <;> simp [escapeBody, hdDigit, isDigit]
  | cons c rest =>
    rw [escapeBody_cons, List.append_assoc, hdDigit_piece q hq]; rfl

theorem reescape_gen (q : UInt8) (hq : q = 34 ∨ q = 39) (next : Bytes) :
    ∀ (v acc : Bytes) (n fuel : Nat), (escapeBody q v).length + 1 ≤ fuel →
      quoted q fuel (escapeBody q v ++ q :: next) acc n = some (acc ++ v, n + (escapeBody q v).length + 1) := by
  intro v
  induction v with
  | nil =>
    intro acc n fuel hf
    obtain ⟨f, rfl⟩ : ∃ f, fuel = f + 1 := ⟨fuel - 1, by omega⟩
    simp [escapeBody, quoted]
  | cons c rest ih =>
    intro acc n fuel hf
    obtain ⟨f, rfl⟩ : ∃ f, fuel = f + 1 := ⟨fuel - 1, by omega⟩
    rw [escapeBody_cons] at hf ⊢
    rw [List.append_assoc, ← hdDigit_escapeBody q hq rest next, quoted_piece q hq, ih]
    · simp [List.length_append]; omega
    · have := piece_length_pos q c (hdDigit (escapeBody q rest ++ q :: next))
      rw [hdDigit_escapeBody q hq] at this
      simp only [List.length_append] at hf; omega

theorem escapeAt_nondigit (x : UInt8) (t : Bytes) (h1 : isDigit x = false) (h2 : x ≠ 120) :
    escapeAt (x :: t) = match lookup Gen.stringEscapes [x] with
      | some v => some (v, 2)
      | none => some ([92], 1) := by
  unfold escapeAt
  simp only [spanLen_cons, h1, Bool.false_eq_true, if_false]
  match t with
  | [] => simp; rfl
  | [a] => simp; rfl
  | a :: b :: t => simp [h2]; rfl

theorem unhex_isHex (h : UInt8) (a : Nat) (e : unhexDigit h = some a) : isHexDigit h = true := by
  unfold unhexDigit at e
  simp only [isHexDigit, isDigit, Bool.or_eq_true, Bool.and_eq_true, decide_eq_true_eq]
  split at e
  · left; left; assumption
  · split at e
    · left; right; assumption
    · split at e
      · right; assumption
      · cases e

def stringEscapesAgree (c : UInt8) : Bool :=
  match Spec.Lex.escape [c] with
  | some (bs, k) => isDigit c || c == 120 || (lookup Gen.stringEscapes [c] == some bs && k == 1)
  | none => true

theorem stringEscapes_agree : ∀ c, stringEscapesAgree c = true := forall_u8 _ (by decide +kernel)

theorem stringEscapes_of_escape (c : UInt8) (bs : Bytes) (k : Nat) (h1 : isDigit c = false) (h2 : c ≠ 120)
    (h : Spec.Lex.escape [c] = some (bs, k)) : lookup Gen.stringEscapes [c] = some bs ∧ k = 1 := by
  have := stringEscapes_agree c
  simpa [stringEscapesAgree, h, h1, h2] using this

theorem escape_escapeAt (rest bs : Bytes) (k : Nat) (h : Spec.Lex.escape rest = some (bs, k)) :
    escapeAt rest = some (bs, k + 1) := by
  cases rest with
  | nil => simp [Spec.Lex.escape] at h
  | cons c r =>
    by_cases hd : isDigit c = true
    · simp only [Spec.Lex.escape, hd, if_true] at h
      split at h
      · rename_i hv
        cases h
        unfold escapeAt
        have hpos : 0 < spanLen isDigit (c :: r) := by simp [spanLen, hd]
        simp only [spanLen, take_min_takeWhile]
        simp only [spanLen] at hpos
        have : min 3 (List.takeWhile isDigit (c :: r)).length > 0 := by omega
        simp only [this, if_true]
        rw [if_neg (by omega)]
        simp [List.length_take, Nat.add_comm]
      · cases h
    · simp only [Bool.not_eq_true] at hd
      by_cases hx : c = 120
      · subst hx
        simp only [Spec.Lex.escape, hd, Bool.false_eq_true, if_false, if_true] at h
        match r, h with
        | h1 :: h2 :: t, h =>
          dsimp only at h
          cases ea : unhexDigit h1 <;> cases eb : unhexDigit h2 <;> simp only [ea, eb] at h <;> cases h
          unfold escapeAt
          simp [spanLen_cons, hd, unhex_isHex _ _ ea, unhex_isHex _ _ eb, ea, eb]
      · rw [escapeAt_nondigit c r hd hx]
        rw [escape_single c r hd hx] at h
        obtain ⟨h1, rfl⟩ := stringEscapes_of_escape c bs k hd hx h
        simp [h1]

theorem decode_agrees_gen (q : UInt8) (v : Bytes) (m : Nat) :
    ∀ (fuel : Nat) (s acc : Bytes) (n : Nat), quoted q fuel s acc n = some (v, m) → sl q s acc n = .ok (true, v, m) := by
  intro fuel
  induction fuel with
  | zero => intro s acc n h; simp [quoted] at h
  | succ fuel ih =>
    intro s acc n h
    cases s with
    | nil => simp [quoted] at h
    | cons c rest =>
      simp only [quoted] at h
      rw [sl_cons]
      by_cases hc : c = q
      · simp only [hc, if_true] at h ⊢
        cases h; rfl
      · simp only [hc, if_false] at h ⊢
        by_cases h92 : c = 92
        · simp only [h92, if_true] at h ⊢
          cases he : Spec.Lex.escape rest with
          | none => simp [he] at h
          | some p =>
            obtain ⟨bs, k⟩ := p
            simp only [he] at h
            simp only [escape_escapeAt rest bs k he, List.drop_succ_cons]
            rw [show n + (k + 1) = n + 1 + k by omega]
            exact ih _ _ _ h
        · simp only [h92, if_false] at h ⊢
          exact ih _ _ _ h

theorem sl_closed (q : UInt8) (hq : q = 34 ∨ q = 39) (s acc : Bytes) (i : Nat) (acc' : Bytes) (j : Nat)
    (h : sl q s acc i = .ok (true, acc', j)) :
    ∃ body tail, s = body ++ q :: tail ∧ j = i + body.length + 1 ∧
      ∀ tail', sl q (body ++ q :: tail') acc i = .ok (true, acc', j) := by
  obtain ⟨k, hj, hk⟩ := (sl_end h).2 rfl
  obtain ⟨hlt, hget⟩ := List.getElem?_eq_some_iff.mp hk
  have hs : s = s.take k ++ q :: s.drop (k + 1) := by
    rw [← hget, ← List.drop_eq_getElem_cons hlt, List.take_append_drop]
  have hq' : isDigit q = false ∧ isHexDigit q = false ∧ q ≠ 120 ∧ q ≠ 92 := by rcases hq with rfl | rfl <;> decide
  have hcut := fun tail' =>
    sl_chunk q q hq'.1 hq'.2.1 hq'.2.2.1 hq'.2.2.2 (s.take k ++ [q]) tail' acc i (Or.inr ⟨_, rfl⟩)
  simp only [← List.append_cons] at hcut
  refine ⟨_, _, hs, by rw [List.length_take, Nat.min_eq_left (Nat.le_of_lt hlt)]; exact hj, fun tail' => ?_⟩
  rw [hs, hcut] at h
  rw [hcut]
  -- the loop closes on `body ++ [q]`: still open at its end, which is `j`, it would close beyond `j`
  cases hb : sl q (s.take k ++ [q]) acc i with
  | error e => rw [hb] at h; cases h
  | ok r =>
    obtain ⟨b, acc1, j1⟩ := r
    rw [hb] at h
    cases b with
    | true => exact h
    | false =>
      have := (sl_end hb).1 rfl
      obtain ⟨k', hk', -⟩ := (sl_end h).2 rfl
      simp only [List.length_append, List.length_take, List.length_singleton] at this
      omega

theorem rawOf_nonstring (t : Tok) (h : t.kind ≠ .string) : RawOf t t.data := by
  simp [RawOf, Tok.code, h]

theorem scan_raw (s0 : Bytes) (l c : Nat) (s : Bytes) (t : Tok) (i : Nat)
    (h : scan ((start s0).mode l c) s = .ok (.inl (t, i))) : RawOf t ((start s0).text ++ s.take i) := by
  rcases scan_closes h with ⟨hst, k, -, rfl, rfl⟩ | ⟨n, k, hst, hf, rfl, rfl⟩ | ⟨q, acc', hst, hs, rfl⟩ <;> rw [hst]
  · exact rawOf_nonstring _ (by simp)
  · have ht := findSub_take hf
    rw [show k + ([93] ++ List.replicate n 61 ++ [93] : Bytes).length = k + n + 2 by simp; omega] at ht
    simp [RawOf, Tok.code, Start.text, ht]
  · have hq := (start_quote hst).1.symm
    obtain ⟨body, tail, rfl, hi, hall⟩ := sl_closed q hq _ [] 0 acc' i hs
    simp only [RawOf, and_self, if_true]
    refine ⟨q, body, rfl, hq, ?_, ?_⟩
    · rw [hi, Nat.zero_add, show body ++ q :: tail = (body ++ [q]) ++ tail by simp, List.take_left' (by simp)]
      rfl
    · simpa [sl, hi] using hall []

end Pico.C06L
