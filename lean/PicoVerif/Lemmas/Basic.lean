import PicoVerif.Base.Py
/-! General-purpose lemmas: slices (`pySlice`, `pySliceAssign`), positions in `++` and `flatten`, ranges, `chunks`, hex text,
`rstrip`, line splitting (`splitLinesAux`, `IsLine`), `List.modify`, `mapM` in `Except`. -/
namespace Pico

theorem getD_drop (l : List α) (s i : Nat) (d : α) : (l.drop s).getD i d = l.getD (s + i) d := by
  simp [List.getD_eq_getElem?_getD, List.getElem?_drop]

theorem getD_take (l : List α) (n i : Nat) (d : α) (h : i < n) : (l.take n).getD i d = l.getD i d := by
  simp [List.getD_eq_getElem?_getD, h]

theorem slice_eq_map_range (m : List α) (s n : Nat) (d : α) (h : s + n ≤ m.length) :
    (m.drop s).take n = (List.range n).map (fun i => m.getD (s + i) d) := by
  apply List.ext_getElem
  · simp; omega
  · intro i h1 h2
    simp at h1 h2
    simp [List.getD_eq_getElem?_getD]
    rw [List.getElem?_eq_getElem (by omega)]
    simp

theorem eq_map_range_getD (l : List α) (d : α) : l = (List.range l.length).map (fun i => l.getD i d) := by
  have := slice_eq_map_range l 0 l.length d (by omega)
  simpa using this

theorem pySlice_skip (a rest : List α) (lo hi : Nat) (h : a.length ≤ lo) :
    pySlice (a ++ rest) lo hi = pySlice rest (lo - a.length) (hi - a.length) := by
  simp only [pySlice, List.drop_take, List.drop_append, List.drop_eq_nil_of_le h, List.nil_append]
  congr 1; omega

theorem getD_append_left (p t : List α) (i : Nat) (d : α) (h : i < p.length) : (p ++ t).getD i d = p.getD i d := by
  simp [List.getD_eq_getElem?_getD, List.getElem?_append_left h]

theorem pySlice_append_left (p t : List α) (lo hi : Nat) (h : hi ≤ p.length) :
    pySlice (p ++ t) lo hi = pySlice p lo hi := by
  simp [pySlice, List.take_append_of_le_length h]

theorem pySlice_prefix (mid post : List α) (hi : Nat) (h : mid.length = hi) : pySlice (mid ++ post) 0 hi = mid := by
  simp [pySlice, ← h]

theorem pySlice_length (l : List α) (lo hi : Nat) (h : hi ≤ l.length) :
    (pySlice l lo hi).length = hi - lo := by
  simp only [pySlice, List.length_drop, List.length_take]; omega

theorem pySlice_getElem? (l : List α) (lo hi j : Nat) :
    (pySlice l lo hi)[j]? = if lo + j < hi then l[lo + j]? else none := by
  simp only [pySlice, List.getElem?_drop, List.getElem?_take]

theorem pySliceAssign_eq (l d : List α) (lo hi : Nat) (h1 : lo ≤ hi) (h2 : hi ≤ l.length) :
    pySliceAssign l lo hi d = l.take lo ++ d ++ l.drop hi := by
  unfold pySliceAssign
  simp only []
  rw [Nat.min_eq_left (Nat.le_trans h1 h2), Nat.min_eq_left h2, Nat.max_eq_right h1]

theorem pySliceAssign_length (l d : List α) (lo hi : Nat) (h1 : lo ≤ hi) (h2 : hi ≤ l.length) :
    (pySliceAssign l lo hi d).length = lo + d.length + (l.length - hi) := by
  rw [pySliceAssign_eq l d lo hi h1 h2]
  simp only [List.length_append, List.length_take, List.length_drop]; omega

theorem pySliceAssign_getElem? (l d : List α) (lo hi j : Nat) (h1 : lo ≤ hi) (h2 : hi ≤ l.length) :
    (pySliceAssign l lo hi d)[j]? =
      if j < lo then l[j]? else if j < lo + d.length then d[j - lo]? else l[j - (lo + d.length) + hi]? := by
  have hlo : (l.take lo).length = lo := by rw [List.length_take]; omega
  rw [pySliceAssign_eq l d lo hi h1 h2, List.append_assoc, List.getElem?_append, hlo,
    List.getElem?_append, List.getElem?_take, List.getElem?_drop]
  by_cases c1 : j < lo
  · simp only [c1, if_true]
  · simp only [c1, if_false]
    by_cases c2 : j - lo < d.length
    · rw [if_pos c2, if_pos (by omega)]
    · rw [if_neg c2, if_neg (by omega)]; congr 1; omega

/-- `data` (first address `a`) copied over `sec` (first address `s`) on an address window `[lo, hi)`
that lies inside both: same length, and cell `j` comes from `data` exactly when `s + j` is in the window -/
theorem overlay_length (sec data : List α) (s a lo hi : Nat) (h1 : s ≤ lo) (h2 : a ≤ lo) (h : lo ≤ hi)
    (h3 : hi ≤ s + sec.length) (h4 : hi ≤ a + data.length) :
    (pySliceAssign sec (lo - s) (hi - s) (pySlice data (lo - a) (hi - a))).length = sec.length := by
  rw [pySliceAssign_length _ _ _ _ (by omega) (by omega), pySlice_length _ _ _ (by omega)]; omega

theorem overlay_getElem? (sec data : List α) (s a lo hi j : Nat) (h1 : s ≤ lo) (h2 : a ≤ lo) (h : lo ≤ hi)
    (h3 : hi ≤ s + sec.length) (h4 : hi ≤ a + data.length) :
    (pySliceAssign sec (lo - s) (hi - s) (pySlice data (lo - a) (hi - a)))[j]? =
      if lo ≤ s + j ∧ s + j < hi then data[s + j - a]? else sec[j]? := by
  rw [pySliceAssign_getElem? _ _ _ _ _ (by omega) (by omega), pySlice_length _ _ _ (by omega), pySlice_getElem?]
  by_cases c1 : s + j < lo
  · rw [if_pos (by omega), if_neg (by omega)]
  · rw [if_neg (by omega)]
    by_cases c2 : s + j < hi
    · rw [if_pos (by omega), if_pos (by omega), if_pos ⟨by omega, c2⟩]; congr 1; omega
    · rw [if_neg (by omega), if_neg (by omega)]; congr 1; omega

theorem neighbours_append {u v : List α} {i : Nat} {a b : α} (ha : (u ++ v)[i]? = some a) (hb : (u ++ v)[i + 1]? = some b) :
    (u[i]? = some a ∧ u[i + 1]? = some b) ∨ (u.getLast? = some a ∧ v.head? = some b) ∨
      ∃ j, v[j]? = some a ∧ v[j + 1]? = some b := by
  rcases Nat.lt_trichotomy (i + 1) u.length with h | h | h
  · rw [List.getElem?_append_left (by omega)] at ha
    rw [List.getElem?_append_left h] at hb
    exact .inl ⟨ha, hb⟩
  · rw [List.getElem?_append_left (by omega), show i = u.length - 1 by omega, ← List.getLast?_eq_getElem?] at ha
    rw [h, List.getElem?_append_right (Nat.le_refl _), Nat.sub_self, ← List.head?_eq_getElem?] at hb
    exact .inr (.inl ⟨ha, hb⟩)
  · rw [List.getElem?_append_right (by omega)] at ha
    rw [List.getElem?_append_right (by omega), show i + 1 - u.length = i - u.length + 1 by omega] at hb
    exact .inr (.inr ⟨_, ha, hb⟩)

theorem getLast?_append_cons (x : List α) (c : α) (z : List α) :
    (x ++ c :: z).getLast? = some (z.getLast?.getD c) := by
  simp [List.getLast?_cons]

theorem cons_cons_of_getElem? {r : List α} {x y : α} (h0 : r[0]? = some x) (h1 : r[1]? = some y) : ∃ r', r = x :: y :: r' :=
  match r, h0, h1 with
  | _ :: _ :: r', h0, h1 => ⟨r', by rw [← Option.some.inj h0, ← Option.some.inj h1]⟩

theorem map_eq_iff_index {γ} (f : α → γ) (g : β → γ) (l1 : List α) (l2 : List β) :
    l1.map f = l2.map g ↔
      l1.length = l2.length ∧ ∀ i, i < l2.length → ∃ a b, l1[i]? = some a ∧ l2[i]? = some b ∧ f a = g b := by
  constructor
  · intro h
    have hlen : l1.length = l2.length := by simpa using congrArg List.length h
    refine ⟨hlen, fun i hi => ?_⟩
    have hi1 : i < l1.length := by omega
    refine ⟨l1[i], l2[i], by simp [hi1], by simp [hi], ?_⟩
    have := congrArg (fun l => l[i]?) h
    simpa [hi, hi1] using this
  · rintro ⟨hlen, h⟩
    apply List.ext_getElem?
    intro i
    by_cases hi : i < l2.length
    · obtain ⟨a, b, ha, hb, hab⟩ := h i hi
      simp [ha, hb, hab]
    · simp [Nat.le_of_not_lt hi, hlen]

theorem take_min_takeWhile (p : α → Bool) (l : List α) (k : Nat) :
    l.take (min k (l.takeWhile p).length) = (l.takeWhile p).take k := by
  conv => lhs; arg 2; rw [← List.takeWhile_append_dropWhile (p := p) (l := l)]
  rw [List.take_append_of_le_length (by omega), List.take_eq_take_iff]; omega

theorem isPrefixOf_append_stop [BEq α] [LawfulBEq α] (l a x : List α) (t : α) (ht : t ∉ l) :
    l.isPrefixOf (a ++ t :: x) = l.isPrefixOf a := by
  induction l generalizing a with
  | nil => simp
  | cons p l ih =>
    cases a with
    | nil =>
      have : p ≠ t := fun e => ht (by simp [e])
      simp [List.isPrefixOf, this]
    | cons c a => simp only [List.cons_append, List.isPrefixOf, ih a fun h => ht (List.mem_cons_of_mem _ h)]

theorem prefix_take_append [BEq α] [LawfulBEq α] (pat s z : List α) (m : Nat) (hm : pat.length ≤ m) (hs : m ≤ s.length) :
    pat.isPrefixOf (s.take m ++ z) = pat.isPrefixOf s := by
  rw [Bool.eq_iff_iff, List.isPrefixOf_iff_prefix, List.isPrefixOf_iff_prefix]
  constructor
  · intro h
    have h1 : pat <+: s.take m :=
      List.prefix_of_prefix_length_le h (List.prefix_append _ _) (by simp; omega)
    exact h1.trans (List.take_prefix _ _)
  · intro h
    have : pat <+: s.take m := by
      rw [List.prefix_iff_eq_take] at h ⊢
      rw [List.take_take, Nat.min_eq_left hm]; exact h
    exact this.trans (List.prefix_append _ _)

theorem flatten_record {k : Nat} : ∀ (rows : List (List α)) (i : Nat), (∀ r ∈ rows, r.length = k) →
    (rows.flatten.drop (k * i)).take k = rows.getD i []
  | [], i, _ => by simp
  | r :: rows, 0, h => by simp [← h r List.mem_cons_self]
  | r :: rows, i + 1, h => by
    rw [List.flatten_cons, Nat.mul_succ, Nat.add_comm, ← List.drop_drop, ← h r List.mem_cons_self, List.drop_left,
      h r List.mem_cons_self, flatten_record rows i fun x hx => h x (List.mem_cons_of_mem _ hx)]
    rfl

theorem length_flatten_of_length {k : Nat} : ∀ (rows : List (List α)), (∀ r ∈ rows, r.length = k) →
    rows.flatten.length = k * rows.length
  | [], _ => rfl
  | r :: rows, h => by
    rw [List.flatten_cons, List.length_append, h r List.mem_cons_self,
      length_flatten_of_length rows fun x hx => h x (List.mem_cons_of_mem _ hx), List.length_cons, Nat.mul_succ, Nat.add_comm]

theorem flatMap_range_map_range (f : Nat → Nat → β) (k : Nat) : ∀ n,
    ((List.range n).flatMap fun i => (List.range k).map fun j => f i j) =
      (List.range (n * k)).map fun r => f (r / k) (r % k)
  | 0 => by simp
  | n + 1 => by
    rw [List.range_succ, List.flatMap_append, flatMap_range_map_range f k n, Nat.succ_mul, List.range_add,
      List.map_append, List.map_map]
    simp only [List.flatMap_cons, List.flatMap_nil, List.append_nil]
    congr 1
    refine List.map_congr_left fun j hj => ?_
    have hj := List.mem_range.mp hj
    have hk : 0 < k := by omega
    simp only [Function.comp_apply]
    rw [Nat.add_comm, Nat.add_mul_div_right _ _ hk, Nat.add_mul_mod_self_right, Nat.div_eq_of_lt hj,
      Nat.mod_eq_of_lt hj, Nat.zero_add]

theorem map_range_two_mul (f : Nat → β) (n : Nat) :
    (List.range (2 * n)).map f = (List.range n).flatMap (fun i => [f (2 * i), f (2 * i + 1)]) := by
  rw [Nat.mul_comm, ← List.map_congr_left (fun r _ => congrArg f (Nat.div_add_mod r 2))]
  exact (flatMap_range_map_range (fun i j => f (2 * i + j)) 2 n).symm

theorem chunks_nil (n : Nat) : chunks n ([] : List α) = [] := by
  rw [chunks]; simp

theorem chunks_step (n : Nat) (l : List α) (hn : n ≠ 0) (hl : l ≠ []) :
    chunks n l = l.take n :: chunks n (l.drop n) := by
  rw [chunks]; simp [hn, hl]

theorem chunks_flatten (n : Nat) (hn : 0 < n) (l : List α) : (chunks n l).flatten = l := by
  fun_induction chunks n l with
  | case1 l h =>
    rcases h with h | h
    · omega
    · simp [h]
  | case2 l _ ih => simp [ih]

theorem chunks_eq (n k : Nat) (hn : 0 < n) : ∀ (l : List α), l.length = n * k →
    chunks n l = (List.range k).map (fun r => (l.drop (n * r)).take n) := by
  induction k with
  | zero =>
    intro l h
    have : l = [] := List.length_eq_zero_iff.mp (by simpa using h)
    subst this; simp [chunks_nil]
  | succ k ih =>
    intro l h
    have hl : l ≠ [] := by
      intro h0; subst h0; simp at h
      have : 0 < n * (k + 1) := Nat.mul_pos hn (by omega)
      omega
    rw [chunks_step n l (by omega) hl, ih (l.drop n) (by simp [h, Nat.mul_succ]),
      List.range_succ_eq_map]
    simp [List.map_map, Function.comp_def, Nat.mul_succ, Nat.add_comm]

theorem chunks_map_eq (n k : Nat) (hn : 0 < n) (m : List α) (h : m.length = n * k) (d : α) (f : List α → β)
    (g : Nat → β) (hfg : ∀ r, r < k → f ((List.range n).map fun i => m.getD (n * r + i) d) = g r) :
    (chunks n m).map f = (List.range k).map g := by
  rw [chunks_eq n k hn m h, List.map_map]
  refine List.map_congr_left fun r hr => ?_
  have hr := List.mem_range.mp hr
  have : n * (r + 1) ≤ n * k := Nat.mul_le_mul_left n hr
  rw [← hfg r hr, Function.comp_apply, slice_eq_map_range m (n * r) n d (by rw [h]; rw [Nat.mul_succ] at this; exact this)]

theorem chunks_length (n k : Nat) (hn : 0 < n) (l : List α) (h : l.length = n * k) :
    (chunks n l).length = k := by
  rw [chunks_eq n k hn l h]; simp

theorem chunks_length_of_mem (n k : Nat) (hn : 0 < n) (l : List α) (h : l.length = n * k) :
    ∀ r ∈ chunks n l, r.length = n := by
  intro r hr
  rw [chunks_eq n k hn l h] at hr
  simp only [List.mem_map, List.mem_range] at hr
  obtain ⟨i, hi, rfl⟩ := hr
  have : n * (i + 1) ≤ n * k := Nat.mul_le_mul_left n hi
  simp only [List.length_take, List.length_drop, h]
  rw [Nat.mul_succ] at this
  omega

theorem toHex_eq_flatMap (l : Bytes) :
    toHex l = l.flatMap (fun b => [hexDigit (b.toNat / 16), hexDigit (b.toNat % 16)]) := by
  induction l with
  | nil => rfl
  | cons b bs ih => simp [toHex, ih]

/-- an ASCII hex digit character `0-9a-f` -/
def isHexChar (c : UInt8) : Bool := (48 ≤ c && c ≤ 57) || (97 ≤ c && c ≤ 102)

theorem hexDigit_isHexChar : ∀ n, n < 16 → isHexChar (hexDigit n) = true := by decide

theorem toHex_isHexChar (l : Bytes) : ∀ c ∈ toHex l, isHexChar c = true := by
  rw [toHex_eq_flatMap, List.forall_mem_flatMap]
  intro b _
  have := b.toNat_lt
  exact List.forall_mem_cons.mpr ⟨hexDigit_isHexChar _ (by omega),
    List.forall_mem_singleton.mpr (hexDigit_isHexChar _ (by omega))⟩

theorem isHexChar_iff (c : UInt8) :
    isHexChar c = true ↔ (48 ≤ c.toNat ∧ c.toNat ≤ 57) ∨ (97 ≤ c.toNat ∧ c.toNat ≤ 102) := by
  simp [isHexChar, UInt8.le_iff_toNat_le]

theorem isPySpace_iff (c : UInt8) : isPySpace c = true ↔ c.toNat = 32 ∨ (9 ≤ c.toNat ∧ c.toNat ≤ 13) := by
  simp [isPySpace, UInt8.le_iff_toNat_le, ← UInt8.toNat_inj]

theorem isHexChar_not_space (c : UInt8) (h : isHexChar c = true) : isPySpace c = false := by
  rw [isHexChar_iff] at h
  rw [Bool.eq_false_iff, Ne, isPySpace_iff]
  omega

theorem rstrip_append_lf (l : Bytes) (h : ∀ c ∈ l, isPySpace c = false) : rstrip (l ++ [10]) = l := by
  have h10 : isPySpace 10 = true := by decide
  rcases List.eq_nil_or_concat l with rfl | ⟨l', y, rfl⟩
  · decide
  · have hy : isPySpace y = false := h y (by simp)
    simp [rstrip, List.reverse_append, h10, hy]

theorem rstrip_toHex_lf (l : Bytes) : rstrip (toHex l ++ [10]) = toHex l :=
  rstrip_append_lf _ (fun c hc => isHexChar_not_space c (toHex_isHexChar l c hc))

theorem splitLinesAux_flatten (nl : α → Bool) (s cur : List α) :
    (splitLinesAux nl s cur).flatten = cur.reverse ++ s := by
  fun_induction splitLinesAux nl s cur with
  | case1 => rfl
  | case2 cur _ => simp
  | case3 x xs cur _ ih => simp [ih]
  | case4 x xs cur _ ih => simp [ih]

theorem splitLinesAux_line (nl : α → Bool) (a : List α) (x : α) (rest : List α)
    (ha : ∀ y ∈ a, nl y = false) (hx : nl x = true) :
    ∀ cur, splitLinesAux nl (a ++ x :: rest) cur = (cur.reverse ++ a ++ [x]) :: splitLinesAux nl rest [] := by
  induction a with
  | nil => intro cur; simp [splitLinesAux, hx]
  | cons y ys ih =>
    intro cur
    have hy : nl y = false := ha y (by simp)
    simp only [List.cons_append, splitLinesAux, hy]
    have := ih (fun z hz => ha z (by simp [hz])) (y :: cur)
    simpa using this

def IsLine (nl : α → Bool) (l : List α) : Prop :=
  ∃ a x, l = a ++ [x] ∧ (∀ y ∈ a, nl y = false) ∧ nl x = true

theorem splitLinesAux_lines (nl : α → Bool) (ls : List (List α)) (h : ∀ l ∈ ls, IsLine nl l) :
    splitLinesAux nl ls.flatten [] = ls := by
  induction ls with
  | nil => rfl
  | cons l ls ih =>
    obtain ⟨a, x, rfl, ha, hx⟩ := h l (by simp)
    have := splitLinesAux_line nl a x ls.flatten ha hx []
    simp only [List.flatten_cons, List.append_assoc, List.cons_append, List.nil_append]
    rw [this, ih (fun l hl => h l (by simp [hl]))]
    simp

theorem IsLine.cons {nl : α → Bool} {y : α} {l : List α} (hy : nl y = false) (h : IsLine nl l) :
    IsLine nl (y :: l) := by
  obtain ⟨a, z, rfl, ha, hz⟩ := h
  exact ⟨y :: a, z, rfl, List.forall_mem_cons.mpr ⟨hy, ha⟩, hz⟩

theorem exists_lines (nl : α → Bool) (x : α) (hx : nl x = true) (s : List α) :
    ∃ ls : List (List α), (∀ l ∈ ls, IsLine nl l) ∧ s ++ [x] = ls.flatten := by
  have single : ∀ z, nl z = true → IsLine nl [z] := fun z hz => ⟨[], z, rfl, by simp, hz⟩
  induction s with
  | nil => exact ⟨[[x]], by simpa using single x hx, by simp⟩
  | cons y ys ih =>
    obtain ⟨ls, hls, hflat⟩ := ih
    by_cases hy : nl y = true
    · exact ⟨[y] :: ls, List.forall_mem_cons.mpr ⟨single y hy, hls⟩, by simp [hflat]⟩
    · cases ls with
      | nil => simp at hflat
      | cons l ls =>
        rw [List.forall_mem_cons] at hls
        exact ⟨(y :: l) :: ls, List.forall_mem_cons.mpr ⟨hls.1.cons (by simpa using hy), hls.2⟩, by simp [hflat]⟩

theorem modify_eq_set_getElem [Inhabited α] (l : List α) (i : Nat) (f : α → α) (h : i < l.length) :
    l.modify i f = l.set i (f l[i]) := by
  rw [List.modify_eq_set, List.getElem?_eq_getElem h]
  rfl

theorem getD_modify_congr (P : α → β) (f : α → α) (hf : ∀ x, P (f x) = P x) (l : List α) (i j : Nat) (d : α) :
    P ((l.modify i f).getD j d) = P (l.getD j d) := by
  simp only [List.getD_eq_getElem?_getD, List.getElem?_modify]
  cases l[j]? with
  | none => rfl
  | some x => by_cases h : i = j <;> simp [h, hf]

theorem ok_bind {ε α β : Type} (a : α) (f : α → Except ε β) : (Except.ok a >>= f) = f a := rfl

theorem mapM_ok_map {ε α β : Type} {f : α → Except ε β} {g : α → β} :
    ∀ (l : List α), (∀ a ∈ l, f a = .ok (g a)) → l.mapM f = .ok (l.map g)
  | [], _ => rfl
  | a :: l, h => by
    rw [List.mapM_cons, h a List.mem_cons_self, mapM_ok_map l (fun b hb => h b (List.mem_cons_of_mem _ hb))]
    rfl

theorem mapM_except_ok {α β ε γ : Type} (f : α → Except ε β) (g : α → γ) (h : β → γ)
    (hgh : ∀ a b, f a = .ok b → h b = g a) : ∀ (l : List α) (bs : List β),
    l.mapM f = .ok bs → bs.map h = l.map g ∧ ∀ a ∈ l, ∃ b, f a = .ok b ∧ b ∈ bs
  | [], bs, hm => by cases hm; exact ⟨rfl, nofun⟩
  | a :: l, bs, hm => by
    rw [List.mapM_cons] at hm
    match hfa : f a, hl : l.mapM f, hm with
    | .ok b, .ok bs', rfl =>
      obtain ⟨ih1, ih2⟩ := mapM_except_ok f g h hgh l bs' hl
      refine ⟨by rw [List.map_cons, List.map_cons, hgh a b hfa, ih1], fun x hx => ?_⟩
      rcases List.mem_cons.1 hx with rfl | hx
      · exact ⟨b, hfa, List.mem_cons_self⟩
      · exact (ih2 x hx).imp fun b' hb' => ⟨hb'.1, List.mem_cons_of_mem _ hb'.2⟩

end Pico
