import PicoVerif.Model.Writers
/-! Helper lemmas for C02 (name factory): injectivity of `nameForId`, totality of `alloc`, and the
state invariant of `getShortName`. -/
namespace Pico.C02L
open Pico.Wr

theorem nameChars_length : Gen.nameChars.length = 26 := by decide

theorem nameChars_inj : ∀ i, i < 26 → ∀ j, j < 26 →
    Gen.nameChars.getD i 0 = Gen.nameChars.getD j 0 → i = j := by
  decide +kernel

theorem nameForId_eq (id : Nat) : nameForId id =
    if id ≥ 26 then nameForId (id / 26) ++ [Gen.nameChars.getD (id % 26) 0]
    else [Gen.nameChars.getD (id % 26) 0] := by
  rw [nameForId]
  simp only [nameChars_length]
  split <;> split <;> first | rfl | omega

theorem nameForId_ne_nil (id : Nat) : nameForId id ≠ [] := by
  rw [nameForId_eq]; split <;> simp

theorem nameForId_inj : ∀ a b : Nat, nameForId a = nameForId b → a = b := by
  intro a
  induction a using Nat.strongRecOn with
  | _ a ih =>
    intro b h
    rw [nameForId_eq a, nameForId_eq b] at h
    by_cases ha : a ≥ 26 <;> by_cases hb : b ≥ 26 <;> simp only [ha, hb, if_true, if_false] at h
    · have h' := List.append_inj' h rfl
      have h1 := ih (a / 26) (Nat.div_lt_self (by omega) (by omega)) (b / 26) h'.1
      have h2 := nameChars_inj _ (Nat.mod_lt _ (by omega)) _ (Nat.mod_lt _ (by omega)) (by simpa using h'.2)
      omega
    · exact absurd (List.append_inj' (s₂ := []) h rfl).1 (nameForId_ne_nil _)
    · exact absurd (List.append_inj' (s₁ := []) h rfl).1.symm (nameForId_ne_nil _)
    · have h2 := nameChars_inj _ (Nat.mod_lt _ (by omega)) _ (Nat.mod_lt _ (by omega)) (by simpa using h)
      omega

theorem reserved_iff (cfg : NameCfg) (n : Bytes) :
    reserved cfg n = true ↔ n ∈ Gen.preservedNames ++ cfg.keep.getD [] := by
  unfold reserved
  cases cfg.keep <;> simp

theorem alloc_spec (cfg : NameCfg) : ∀ fuel id,
    (alloc cfg fuel id = none → ∀ k, id ≤ k → k < id + fuel → reserved cfg (nameForId k) = true) ∧
    (∀ nm nxt, alloc cfg fuel id = some (nm, nxt) → id < nxt ∧ reserved cfg nm = false ∧
      nm = nameForId (nxt - 1) ∧ ∀ k, id ≤ k → k < nxt - 1 → reserved cfg (nameForId k) = true) := by
  intro fuel
  induction fuel with
  | zero => intro id; simp [alloc]; intros; omega
  | succ fuel ih =>
    intro id
    simp only [alloc]
    by_cases hr : reserved cfg (nameForId id) = true
    · simp only [hr, if_true]
      obtain ⟨ih1, ih2⟩ := ih (id + 1)
      refine ⟨fun h k hk1 hk2 => ?_, fun nm nxt h => ?_⟩
      · by_cases hk : k = id
        · subst hk; exact hr
        · exact ih1 h k (by omega) (by omega)
      · obtain ⟨h1, h2, h3, h4⟩ := ih2 nm nxt h
        refine ⟨by omega, h2, h3, fun k hk1 hk2 => ?_⟩
        by_cases hk : k = id
        · subst hk; exact hr
        · exact h4 k (by omega) hk2
    · simp only [hr]
      refine ⟨fun h => by simp at h, fun nm nxt h => ?_⟩
      simp at h
      obtain ⟨rfl, rfl⟩ := h
      refine ⟨by omega, by simpa using hr, by simp, fun k hk1 hk2 => by omega⟩

theorem alloc_ne_none (cfg : NameCfg) (id : Nat) : alloc cfg (allocFuel cfg) id ≠ none := by
  intro h
  have hall := (alloc_spec cfg (allocFuel cfg) id).1 h
  have hnd : ((List.range' id (allocFuel cfg)).map nameForId).Nodup :=
    List.Pairwise.map nameForId (fun a b hab heq => hab (nameForId_inj a b heq)) List.nodup_range'
  have hsub : (List.range' id (allocFuel cfg)).map nameForId ⊆ Gen.preservedNames ++ cfg.keep.getD [] := by
    intro x hx
    obtain ⟨k, hk, rfl⟩ := List.mem_map.mp hx
    rw [List.mem_range'_1] at hk
    exact (reserved_iff cfg _).mp (hall k hk.1 hk.2)
  have := hnd.length_le_of_subset hsub
  simp [allocFuel] at this
  omega

theorem alloc_total (cfg : NameCfg) (id : Nat) :
    ∃ nm nxt, alloc cfg (allocFuel cfg) id = some (nm, nxt) ∧ id < nxt ∧ reserved cfg nm = false ∧
      nm = nameForId (nxt - 1) ∧ ∀ k, id ≤ k → k < nxt - 1 → reserved cfg (nameForId k) = true := by
  cases h : alloc cfg (allocFuel cfg) id with
  | none => exact absurd h (alloc_ne_none cfg id)
  | some p =>
    obtain ⟨nm, nxt⟩ := p
    exact ⟨nm, nxt, rfl, (alloc_spec cfg _ id).2 nm nxt h⟩

/-- the value bound to `n` in the factory's map (first match, as `find?` does) -/
def lookup (st : NameSt) (n : Bytes) : Option Bytes := (st.map.find? (·.1 == n)).map (·.2)

/-- every bound value is a non-reserved generated name with id below `next`; distinct keys have distinct values -/
def Inv (cfg : NameCfg) (st : NameSt) : Prop :=
  (∀ n v, lookup st n = some v → reserved cfg v = false ∧ ∃ k, k < st.next ∧ v = nameForId k) ∧
  (∀ n m v, lookup st n = some v → lookup st m = some v → n = m)

theorem inv_init (cfg : NameCfg) : Inv cfg {} := by
  constructor <;> simp [lookup]

/-- what a request returns: the name itself if kept, otherwise the value bound in the final map -/
def Out (cfg : NameCfg) (stf : NameSt) (n o : Bytes) : Prop :=
  if cfg.keepAll = true ∨ reserved cfg n = true then o = n else lookup stf n = some o

theorem Out.kept {cfg : NameCfg} {stf : NameSt} {n o : Bytes} (h : cfg.keepAll = true ∨ reserved cfg n = true) :
    Out cfg stf n o ↔ o = n := by
  unfold Out; rw [if_pos h]

theorem Out.bound {cfg : NameCfg} {stf : NameSt} {n o : Bytes} (h : ¬(cfg.keepAll = true ∨ reserved cfg n = true)) :
    Out cfg stf n o ↔ lookup stf n = some o := by
  unfold Out; rw [if_neg h]

def Ext (a b : NameSt) : Prop := ∀ m v, lookup a m = some v → lookup b m = some v

theorem Ext.refl (a : NameSt) : Ext a a := fun _ _ h => h

theorem Ext.trans {a b c : NameSt} (h1 : Ext a b) (h2 : Ext b c) : Ext a c := fun m v h => h2 m v (h1 m v h)

theorem Out.mono {cfg : NameCfg} {s nf : NameSt} {n o : Bytes} (ho : Out cfg s n o) (he : Ext s nf) :
    Out cfg nf n o := by
  by_cases h : cfg.keepAll = true ∨ reserved cfg n = true
  · exact (Out.kept h).mpr ((Out.kept h).mp ho)
  · exact (Out.bound h).mpr (he n o ((Out.bound h).mp ho))

/-- the renaming read off a factory state -/
def fOf (cfg : NameCfg) (nf : NameSt) (n : Bytes) : Bytes :=
  if cfg.keepAll = true ∨ reserved cfg n = true then n else (lookup nf n).getD n

theorem Out.eq_fOf {cfg : NameCfg} {nf : NameSt} {n o : Bytes} (ho : Out cfg nf n o) : o = fOf cfg nf n := by
  unfold fOf
  by_cases h : cfg.keepAll = true ∨ reserved cfg n = true
  · rw [if_pos h]; exact (Out.kept h).mp ho
  · rw [if_neg h, (Out.bound h).mp ho]; rfl

theorem lookup_push (st : NameSt) (n nm : Bytes) (nxt : Nat) (hn : lookup st n = none) (m v : Bytes) :
    lookup { map := st.map ++ [(n, nm)], next := nxt } m = some v ↔ lookup st m = some v ∨ (m = n ∧ v = nm) := by
  rw [show lookup { map := st.map ++ [(n, nm)], next := nxt } m =
      (lookup st m).or (if n = m then some nm else none) by
    simp only [lookup, List.find?_append]
    cases st.map.find? (fun x => x.1 == m) with
    | some e => simp
    | none => by_cases hnm : n = m <;> simp [hnm]]
  cases hl : lookup st m with
  | some w =>
    have : m ≠ n := by rintro rfl; rw [hn] at hl; cases hl
    simp [this]
  | none =>
    by_cases hnm : n = m
    · subst hnm; simp [eq_comm]
    · simp [hnm, Ne.symm hnm]

theorem step_spec (cfg : NameCfg) (st : NameSt) (n : Bytes) (hinv : Inv cfg st) :
    Inv cfg (getShortName cfg st n).1 ∧
    Ext st (getShortName cfg st n).1 ∧
    Out cfg (getShortName cfg st n).1 n (getShortName cfg st n).2 := by
  unfold getShortName Out
  by_cases hk : cfg.keepAll = true
  · simp [hk, hinv, Ext.refl]
  by_cases hr : reserved cfg n = true
  · simp [hk, hr, hinv, Ext.refl]
  simp only [hk, hr, if_false, false_or, Bool.false_eq_true]
  cases hf : st.map.find? (fun x => x.1 == n) with
  | some e =>
    refine ⟨hinv, Ext.refl st, ?_⟩
    simp [lookup, hf]
  | none =>
    obtain ⟨nm, nxt, ha, hlt, hres, hnm, -⟩ := alloc_total cfg st.next
    simp only [ha]
    have hpush := lookup_push st n nm nxt (by simp [lookup, hf])
    -- the new value has an id beyond every bound one, so it is none of them
    have hnew : ∀ c, lookup st c ≠ some nm := by
      intro c hc
      obtain ⟨-, k, hk1, hk2⟩ := hinv.1 c nm hc
      have := nameForId_inj k (nxt - 1) (by rw [← hk2, hnm])
      omega
    refine ⟨⟨?_, ?_⟩, fun m v hm => (hpush m v).mpr (Or.inl hm), (hpush n nm).mpr (Or.inr ⟨rfl, rfl⟩)⟩
    · intro m v hm
      rcases (hpush m v).mp hm with h | ⟨rfl, rfl⟩
      · obtain ⟨h1, k, hk1, hk2⟩ := hinv.1 m v h
        exact ⟨h1, k, by simp only; omega, hk2⟩
      · exact ⟨hres, nxt - 1, by simp only; omega, hnm⟩
    · intro a b v hA hB
      rcases (hpush a v).mp hA with hA' | ⟨ha, hv⟩
      · rcases (hpush b v).mp hB with hB' | ⟨-, hv⟩
        · exact hinv.2 a b v hA' hB'
        · exact absurd (hv ▸ hA') (hnew a)
      · rcases (hpush b v).mp hB with hB' | ⟨hb, -⟩
        · exact absurd (hv ▸ hB') (hnew b)
        · rw [ha, hb]

/-- `outs` is the output history for requests `ns`: there is a final map satisfying the invariant that explains every output -/
def Good (cfg : NameCfg) (ns outs : List Bytes) : Prop :=
  ∃ stf, Inv cfg stf ∧ outs.length = ns.length ∧
    ∀ i (hi : i < ns.length), ∃ o, outs[i]? = some o ∧ Out cfg stf ns[i] o

theorem Good.length {cfg ns outs} (g : Good cfg ns outs) : outs.length = ns.length := by
  obtain ⟨_, -, h, -⟩ := g; exact h

theorem Good.consistent {cfg ns outs} (g : Good cfg ns outs) (i j : Nat) (hi : i < ns.length)
    (hj : j < ns.length) (h : ns[i] = ns[j]) : outs[i]? = outs[j]? := by
  obtain ⟨stf, -, -, hall⟩ := g
  obtain ⟨oi, hoi, hi'⟩ := hall i hi
  obtain ⟨oj, hoj, hj'⟩ := hall j hj
  rw [hoi, hoj, hi'.eq_fOf, hj'.eq_fOf, h]

theorem Good.injective {cfg ns outs} (g : Good cfg ns outs) (i j : Nat) (hi : i < ns.length)
    (hj : j < ns.length) (h : ns[i] ≠ ns[j]) : outs[i]? ≠ outs[j]? := by
  obtain ⟨stf, hinv, -, hall⟩ := g
  obtain ⟨oi, hoi, hi'⟩ := hall i hi
  obtain ⟨oj, hoj, hj'⟩ := hall j hj
  rw [hoi, hoj]
  intro heq
  obtain rfl : oi = oj := by simpa using heq
  by_cases hci : cfg.keepAll = true ∨ reserved cfg ns[i] = true <;>
    by_cases hcj : cfg.keepAll = true ∨ reserved cfg ns[j] = true
  · exact h (((Out.kept hci).mp hi').symm.trans ((Out.kept hcj).mp hj'))
  · have := (hinv.1 _ _ ((Out.bound hcj).mp hj')).1
    rw [(Out.kept hci).mp hi'] at this
    exact hcj (.inl (hci.resolve_right (by simp [this])))
  · have := (hinv.1 _ _ ((Out.bound hci).mp hi')).1
    rw [(Out.kept hcj).mp hj'] at this
    exact hci (.inl (hcj.resolve_right (by simp [this])))
  · exact h (hinv.2 _ _ _ ((Out.bound hci).mp hi') ((Out.bound hcj).mp hj'))

theorem Good.kept {cfg ns outs} (g : Good cfg ns outs) (i : Nat) (hi : i < ns.length)
    (h : cfg.keepAll = true ∨ reserved cfg ns[i] = true) : outs[i]? = some ns[i] := by
  obtain ⟨stf, -, -, hall⟩ := g
  obtain ⟨o, ho, hO⟩ := hall i hi
  rw [ho, (Out.kept h).mp hO]

theorem Good.fresh {cfg ns outs} (g : Good cfg ns outs) (i : Nat) (hi : i < ns.length) (o : Bytes)
    (ho : outs[i]? = some o) (hne : o ≠ ns[i]) : reserved cfg o = false := by
  obtain ⟨stf, hinv, -, hall⟩ := g
  obtain ⟨o', ho', hO⟩ := hall i hi
  obtain rfl : o = o' := by simpa [ho] using ho'
  by_cases h : cfg.keepAll = true ∨ reserved cfg ns[i] = true
  · exact absurd ((Out.kept h).mp hO) hne
  · exact (hinv.1 _ _ ((Out.bound h).mp hO)).1

end Pico.C02L
