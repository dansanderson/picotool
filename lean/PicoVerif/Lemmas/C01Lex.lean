import PicoVerif.Props.C07
/-! Lexer-side notions for C01: reading a text token by token with the reference lexer (`SpecRun`), whose result
`C07.lex_agrees_spec` hands to picotool's lexer. The matcher lemmas come from `Lemmas/LexCore`. -/
namespace Pico.C01
open Pico.Lex

def sigToks (toks : List Tok) : List Tok := toks.filter (fun t => !t.trivia)

end Pico.C01

namespace Pico.C01L
open Pico.Lex Pico.Wr Pico.LexL
open Pico.C01 (sigToks)

theorem spanLen_nil (p : UInt8 → Bool) : spanLen p [] = 0 := LexL.spanLen_nil p

abbrev kws : List Bytes := Gen.matcherKeywords

abbrev symLits : List Bytes := Spec.Lex.symbolSet

/-- only an alias of `Gen.matcherShape` -/
abbrev shape : List Entry := Gen.matcherShape

/-- a token without its position: kind, data, quote, long-bracket level -/
abbrev Core := Kind × Bytes × Option UInt8 × Option Bytes
def core (t : Tok) : Core := (t.kind, t.data, t.quote, t.mlq)

theorem sigToks_cons_triv (t : Tok) (rest : List Tok) (h : t.trivia = true) : sigToks (t :: rest) = sigToks rest := by
  simp [sigToks, h]

theorem sigToks_cons_sig (t : Tok) (rest : List Tok) (h : t.trivia = false) : sigToks (t :: rest) = t :: sigToks rest := by
  simp [sigToks, h]

theorem trivia_cases (t : Tok) :
    t.trivia = false ∨ (t.trivia = true ∧ (t.kind = .space ∨ t.kind = .newline ∨ t.kind = .comment)) := by
  cases hk : t.kind <;> simp [Tok.trivia, hk]

/-- the reference lexer reads `s` to its end, and the significant tokens are `sigs` (positions aside) -/
def SpecRun (s : Bytes) (sigs : List Core) : Prop :=
  ∀ fuel line col, s.length + 1 ≤ fuel →
    ∃ ts, Spec.Lex.lexAll fuel s line col = some ts ∧ (sigToks ts).map core = sigs

theorem SpecRun.nil : SpecRun [] [] := by
  intro fuel line col hf
  obtain ⟨f, rfl⟩ : ∃ f, fuel = f + 1 := ⟨fuel - 1, by simp at hf; omega⟩
  exact ⟨[], by simp [Spec.Lex.lexAll], rfl⟩

theorem SpecRun.step {x z : Bytes} {t : Tok} {sigs : List Core} (hx : x ≠ [])
    (h : Spec.Lex.lexOne (x ++ z) = some (t, x.length)) (hz : SpecRun z sigs) :
    SpecRun (x ++ z) (if t.trivia then sigs else core t :: sigs) := by
  intro fuel line col hf
  have hxl : 0 < x.length := List.length_pos_iff.mpr hx
  obtain ⟨f, rfl⟩ : ∃ f, fuel = f + 1 := ⟨fuel - 1, by simp at hf; omega⟩
  obtain ⟨ts, hts, hsig⟩ :=
    hz f (Spec.Lex.posAfter line col x).1 (Spec.Lex.posAfter line col x).2 (by simp at hf; omega)
  refine ⟨{ t with line := line, col := col } :: ts, ?_, ?_⟩
  · have hne : (x ++ z).isEmpty = false := by cases x <;> simp at hx ⊢
    simp [Spec.Lex.lexAll, hne, h, hx, hts]
  · have hc : core { t with line := line, col := col } = core t := rfl
    have htv : ({ t with line := line, col := col } : Tok).trivia = t.trivia := rfl
    cases htr : t.trivia <;> simp [sigToks, htv, htr, hc] <;> exact hsig

theorem SpecRun.sig {x z : Bytes} {t : Tok} {sigs : List Core} (hx : x ≠ [])
    (h : Spec.Lex.lexOne (x ++ z) = some (t, x.length)) (ht : t.trivia = false) (hz : SpecRun z sigs) :
    SpecRun (x ++ z) (core t :: sigs) := by
  simpa [ht] using SpecRun.step hx h hz

theorem SpecRun.triv {x z : Bytes} {t : Tok} {sigs : List Core} (hx : x ≠ [])
    (h : Spec.Lex.lexOne (x ++ z) = some (t, x.length)) (ht : t.trivia = true) (hz : SpecRun z sigs) :
    SpecRun (x ++ z) sigs := by
  simpa [ht] using SpecRun.step hx h hz

theorem lex_of_SpecRun {s : Bytes} {sigs : List Core} (h : SpecRun s sigs) :
    ∃ out, lex [s] = .ok out ∧ (sigToks out).map core = sigs := by
  obtain ⟨ts, hts, hsig⟩ := h (s.length + 1) 0 0 (Nat.le_refl _)
  exact ⟨ts, C07.lex_agrees_spec s ts hts, hsig⟩

theorem lexOne_of_matchOne {s : Bytes} {k : Kind} {n : Nat} (hp : start s = .plain)
    (h : matchOne shape s = some (k, n)) : Spec.Lex.lexOne s = some ({ kind := k, data := s.take n }, n) := by
  rw [C07L.lexOne_plain s hp, show Gen.matcherShape = shape from rfl, h]; rfl

end Pico.C01L
