import PicoVerif.Model.ToFile
/-! Lemmas for C11: the operations of `toFile` before the destination is touched, reading a `Store` after a write, and the
loop `processGameFiles` one argument at a time. -/
namespace Pico.ToFile

/-- nothing `toFile` does before the encoder returns touches the destination -/
theorem pre_no_dest (readsLabel : Bool) (dest : Option Bytes) (ws : List Bytes) :
    ∀ op ∈ ([Op.destExists] ++ (if readsLabel ∧ dest.isSome then [Op.destRead] else [])) ++ ws.map Op.tempWrite,
      op.touchesDest = false := by
  intro op h
  simp only [List.mem_append, List.mem_map] at h
  rcases h with (h | h) | ⟨b, _, rfl⟩
  · simp at h; subst h; rfl
  · split at h
    · simp at h; subst h; rfl
    · simp at h
  · rfl

theorem Store.get_set_self (s : Store) (p : String) (c : Bytes) : (s.set p c).get p = some c := by
  simp [Store.get, Store.set]

theorem Store.get_set_ne (s : Store) {p q : String} (c : Bytes) (h : q ≠ p) : (s.set p c).get q = s.get q := by
  have hpq : (p == q) = false := beq_false_of_ne (Ne.symm h)
  simp only [Store.get, Store.set, List.find?_cons, hpq, List.find?_filter]
  -- an entry found under `q` is not one the write to `p` removed
  congr 2
  funext a
  by_cases ha : a.1 = q <;> simp [ha, h]

theorem processGameFiles_cons (ow : Bool) (c : CartArg) (rest : List CartArg) (s : Store) (err : Bool) :
    processGameFiles ow (c :: rest) s err =
      if c.cart = true then
        if c.loads = true then
          match c.enc with
          | .returns ws => processGameFiles ow rest (s.set (outName ow c) ws.flatten) err
          | .raises _ => (s, .raised)
        else processGameFiles ow rest s true
      else processGameFiles ow rest s err := by
  cases hc : c.cart <;> cases hl : c.loads <;> cases he : c.enc <;> simp [processGameFiles, hc, hl, he, toFile]

/-- the store only ever changes by a loadable cart being written under its output name: what holds of the store at the
start and survives every such write holds at the end -/
theorem processGameFiles_store (ow : Bool) (P : Store → Prop) (cs : List CartArg)
    (hset : ∀ c ∈ cs, c.cart = true → c.loads = true → ∀ (s : Store) (ws : List Bytes), P s → P (s.set (outName ow c) ws.flatten)) :
    ∀ (s : Store) (err : Bool), P s → P (processGameFiles ow cs s err).1 := by
  induction cs with
  | nil => exact fun _ _ h => h
  | cons c rest ih =>
    have ih := ih fun x hx => hset x (List.mem_cons_of_mem _ hx)
    intro s err h
    rw [processGameFiles_cons]
    split
    · rename_i hk
      split
      · rename_i hl
        split
        · exact ih _ err (hset c List.mem_cons_self hk hl s _ h)
        · exact h
      · exact ih s true h
    · exact ih s err h

end Pico.ToFile
