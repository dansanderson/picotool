import PicoVerif.Model.Require
/-! Lemmas for C14: a successful `evalCalls` as a derivation without fuel (`Eval`), and what every derivation keeps
(`Eval.inv`). -/
namespace Pico.Req
open Pico.Inc

theorem any_name_true_iff (pkgs : List Pkg) (p : Bytes) :
    pkgs.any (·.name == p) = true ↔ p ∈ pkgs.map (·.name) := by
  simp only [List.any_eq_true, beq_iff_eq, List.mem_map]

/-- `Eval w calls cur pkgs pkgs'`: evaluating `calls` (found in file `cur`) takes the package table from `pkgs` to `pkgs'` -/
inductive Eval (w : World) : List Call → Nat → List Pkg → List Pkg → Prop
  | nil {cur pkgs} : Eval w [] cur pkgs pkgs
  | old {p ugl rest cur pkgs pkgs'} : requireRejected p = false → p ∈ pkgs.map (·.name) →
      Eval w rest cur pkgs pkgs' → Eval w (.ok (p, ugl) :: rest) cur pkgs pkgs'
  | new {p ugl rest cur pkgs mid pkgs' f} : requireRejected p = false → p ∉ pkgs.map (·.name) → w.locate p cur = some f →
      Eval w (w.callsOf f ugl) f (pkgs ++ [{ name := p, file := f, keepLoop := ugl }]) mid →
      Eval w rest cur mid pkgs' → Eval w (.ok (p, ugl) :: rest) cur pkgs pkgs'

theorem Eval.of_ok {w : World} {fuel : Nat} {calls : List Call} {cur : Nat} {pkgs pkgs' : List Pkg} :
    evalCalls w fuel calls cur pkgs = .ok pkgs' → Eval w calls cur pkgs pkgs' := by
  fun_induction evalCalls w fuel calls cur pkgs generalizing pkgs' with
  | case1 | case3 | case4 | case6 | case7 => exact nofun
  | case2 => intro h; cases h; exact .nil
  | case5 fuel rest cur pkgs p ugl hr ha ih =>
    exact fun h => .old (by simpa using hr) ((any_name_true_iff _ _).1 ha) (ih h)
  | case8 fuel rest cur pkgs p ugl hr ha f hl mid hm ih1 ih2 =>
    exact fun h => .new (by simpa using hr) (mt (any_name_true_iff _ _).2 ha) hl (ih1 hm) (ih2 h)

/-- what an evaluation keeps: the packages registered before stay in place, names stay distinct, every name called for is
registered, and every new package was found by the lookup -/
structure Kept (w : World) (calls : List Call) (pkgs pkgs' : List Pkg) : Prop where
  inPlace : pkgs <+: pkgs'
  once : (pkgs.map (·.name)).Nodup → (pkgs'.map (·.name)).Nodup
  registered : ∀ p ugl, (.ok (p, ugl) : Call) ∈ calls → p ∈ pkgs'.map (·.name)
  located : ∀ q ∈ pkgs', q ∈ pkgs ∨ ∃ from_, w.locate q.name from_ = some q.file

theorem Eval.inv {w : World} {calls : List Call} {cur : Nat} {pkgs pkgs' : List Pkg} (h : Eval w calls cur pkgs pkgs') :
    Kept w calls pkgs pkgs' := by
  induction h with
  | nil => exact ⟨List.prefix_refl _, id, nofun, fun _ => .inl⟩
  | old _ hp _ ih =>
    obtain ⟨i1, i2, i3, i4⟩ := ih
    refine ⟨i1, i2, fun p ugl hm => ?_, i4⟩
    rcases List.mem_cons.1 hm with hm | hm
    · cases hm; exact (i1.map _).subset hp
    · exact i3 p ugl hm
  | @new p ugl rest cur pkgs mid pkgs' f _ hp hl _ _ ih1 ih2 =>
    obtain ⟨a1, a2, -, a4⟩ := ih1
    obtain ⟨b1, b2, b3, b4⟩ := ih2
    refine ⟨(List.prefix_append _ _).trans (a1.trans b1), fun hn => b2 (a2 ?_), fun p' ugl' hm => ?_, fun q hq => ?_⟩
    · rw [List.map_append, List.nodup_append]
      exact ⟨hn, by simp, fun a ha b hb hab => hp (by simp at hb; rw [← hb, ← hab]; exact ha)⟩
    · rcases List.mem_cons.1 hm with hm | hm
      · cases hm; exact ((a1.trans b1).map _).subset (by simp)
      · exact b3 p' ugl' hm
    · rcases b4 q hq with hq | hq
      · rcases a4 q hq with hq | hq
        · rcases List.mem_append.1 hq with hq | hq
          · exact .inl hq
          · simp at hq; subst hq; exact .inr ⟨cur, hl⟩
        · exact .inr hq
      · exact .inr hq

end Pico.Req
