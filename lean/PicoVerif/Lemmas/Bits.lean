/-! Bit fields of a byte. `(x &&& k) ||| v` keeps the bits `k` of `x` and puts `v` into the rest (`ins_*`: `v` inserted).
The lemmas say what a mask `m` reads afterwards: `v` where `k` had cleared the byte, `x` where `k` kept it and `v` has
no bit. The masks stay variables; a use supplies `k &&& m = 0` and the like by `decide` on the two literals. -/
namespace Pico

theorem and_or_and (x k v m : UInt8) : ((x &&& k) ||| v) &&& m = (x &&& (k &&& m)) ||| (v &&& m) := by
  apply UInt8.toBitVec_inj.mp
  simp only [UInt8.toBitVec_and, UInt8.toBitVec_or, BitVec.and_or_distrib_right, BitVec.and_assoc]

theorem ins_and_cleared {x k v m : UInt8} (hk : k &&& m = 0) : ((x &&& k) ||| v) &&& m = v &&& m := by
  rw [and_or_and, hk, UInt8.and_zero, UInt8.zero_or]

theorem ins_and_kept {x k v m : UInt8} (hk : k &&& m = m) (hv : v &&& m = 0) :
    ((x &&& k) ||| v) &&& m = x &&& m := by
  rw [and_or_and, hk, hv, UInt8.or_zero]

theorem and_eq_zero_of_disjoint {v m k : UInt8} (hv : v &&& m = v) (hd : m &&& k = 0) : v &&& k = 0 := by
  rw [← hv, UInt8.and_assoc, hd, UInt8.and_zero]

theorem toUInt8_and_low (p n : Nat) (h : p < 2 ^ n) (hn : n ≤ 8) :
    p.toUInt8 &&& (2 ^ n - 1).toUInt8 = p.toUInt8 := by
  apply UInt8.toNat_inj.mp
  have h8 : 2 ^ n ≤ 2 ^ 8 := Nat.pow_le_pow_right (by omega) hn
  simp only [UInt8.toNat_and, Nat.toUInt8_eq, UInt8.toNat_ofNat']
  rw [Nat.mod_eq_of_lt (show 2 ^ n - 1 < 2 ^ 8 by omega), Nat.and_two_pow_sub_one_eq_mod,
    Nat.mod_eq_of_lt (show p < 2 ^ 8 by omega), Nat.mod_eq_of_lt h]

theorem toUInt8_toNat_of_lt (n : Nat) (h : n < 256) : n.toUInt8.toNat = n :=
  UInt8.toNat_ofNat_of_lt' h

theorem toUInt8_ne_zero (n : Nat) (h : n < 256) (h0 : n ≠ 0) : ¬ n.toUInt8 = 0 :=
  fun e => h0 (by rw [← toUInt8_toNat_of_lt n h, e]; rfl)

theorem toUInt8_lt16 (v : Nat) (h : v < 16) : v.toUInt8 < 16 := by
  rw [UInt8.lt_iff_toNat_lt, toUInt8_toNat_of_lt v (by omega)]
  exact h

theorem add_eq_or {a b : UInt8} (h : a &&& b = 0) : a + b = a ||| b := by
  apply UInt8.toBitVec_inj.mp
  rw [UInt8.toBitVec_add, UInt8.toBitVec_or]
  exact BitVec.add_eq_or_of_and_eq_zero _ _ (by rw [← UInt8.toBitVec_and, h]; rfl)

theorem ins_add {x k v m : UInt8} (hv : v &&& m = v) (hd : m &&& k = 0) : (x &&& k) + v = (x &&& k) ||| v :=
  add_eq_or (by rw [UInt8.and_assoc, UInt8.and_comm k v, and_eq_zero_of_disjoint hv hd, UInt8.and_zero])

/-! A field read as a number: the `w` bits from bit `k` up of `x` are `x / 2 ^ k % 2 ^ w`. -/

theorem and_low_toNat (x m : UInt8) (w : Nat) (hm : m.toNat = 2 ^ w - 1) : (x &&& m).toNat = x.toNat % 2 ^ w := by
  rw [UInt8.toNat_and, hm, Nat.and_two_pow_sub_one_eq_mod]

theorem field_toNat (x m s : UInt8) (k w : Nat) (hs : s.toNat = k) (hk : k < 8) (hm : m.toNat = (2 ^ w - 1) <<< k) :
    ((x &&& m) >>> s).toNat = x.toNat / 2 ^ k % 2 ^ w := by
  rw [UInt8.toNat_shiftRight, UInt8.toNat_and, hs, Nat.mod_eq_of_lt hk, hm, Nat.shiftRight_and_distrib,
    Nat.shiftLeft_shiftRight, Nat.and_two_pow_sub_one_eq_mod, Nat.shiftRight_eq_div_pow]

theorem shl_or_toNat (a b s : UInt8) (n : Nat) (hs : s.toNat = n) (hn : n < 8) (ha : a.toNat < 2 ^ (8 - n))
    (hb : b.toNat < 2 ^ n) : ((a <<< s) ||| b).toNat = a.toNat * 2 ^ n + b.toNat := by
  have h8 : a.toNat * 2 ^ n < 2 ^ 8 := by
    calc a.toNat * 2 ^ n < 2 ^ (8 - n) * 2 ^ n := Nat.mul_lt_mul_of_pos_right ha (Nat.two_pow_pos _)
      _ = 2 ^ 8 := by rw [← Nat.pow_add]; congr 1; omega
  rw [UInt8.toNat_or, UInt8.toNat_shiftLeft, hs, Nat.mod_eq_of_lt hn, Nat.shiftLeft_eq, Nat.mod_eq_of_lt h8,
    ← Nat.shiftLeft_eq, ← Nat.shiftLeft_add_eq_or_of_lt hb, Nat.shiftLeft_eq]

theorem nibbles_toNat (a b : UInt8) (ha : a.toNat < 16) (hb : b.toNat < 16) :
    ((a <<< 4) ||| b).toNat / 16 = a.toNat ∧ ((a <<< 4) ||| b).toNat % 16 = b.toNat := by
  rw [shl_or_toNat a b 4 4 rfl (by omega) ha hb]
  omega

end Pico
