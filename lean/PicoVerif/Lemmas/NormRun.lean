import PicoVerif.Model.AstWriters
import PicoVerif.Lemmas.LexCore
import PicoVerif.Lemmas.Basic
/-! The stages of the formatter's regex pipeline `normRun` (Model/AstWriters), one by one: each stage's equations on
inputs of the form it looks for, where it is compositional, what it keeps of the head and the end of a string, the
predicate it establishes (`Clean`, `NoSpLF`, `LineOK`, `StartK`, `NoTriple`) with the stages that keep it, and that it is the
identity where its predicate holds already. -/
namespace Pico.Ast
open Pico.Lex

theorem spanLen_nil' (p : UInt8 → Bool) : spanLen p [] = 0 := LexL.spanLen_nil p

theorem spanLen_sp (n : Nat) (r : Bytes) (h : r.head? ≠ some 32) :
    spanLen (· == 32) (List.replicate n 32 ++ r) = n :=
  LexL.spanLen_replicate _ 32 n r rfl fun c hc => by simpa [hc] using h

theorem drop_sp (n : Nat) (r : Bytes) : (List.replicate n (32 : UInt8) ++ r).drop n = r :=
  List.drop_left' List.length_replicate

theorem head_decomp (p : UInt8 → Bool) (s : Bytes) :
    ∃ t z, s = t ++ z ∧ (∀ x ∈ t, p x = true) ∧ (∀ c, z.head? = some c → p c = false) :=
  ⟨_, _, (List.take_append_drop (spanLen p s) s).symm, LexL.spanLen_take_all p s, LexL.spanLen_drop_head p s⟩

theorem all_sp (t : Bytes) (h : ∀ x ∈ t, (x == 32) = true) : List.replicate t.length 32 = t :=
  (List.eq_replicate_iff.mpr ⟨rfl, fun x hx => by simpa using h x hx⟩).symm

theorem sp_decomp (s : Bytes) : ∃ n z, s = List.replicate n 32 ++ z ∧ z.head? ≠ some 32 := by
  obtain ⟨t, z, rfl, ht, hz⟩ := head_decomp (· == 32) s
  exact ⟨t.length, z, by rw [all_sp t ht], fun h => by simpa using hz 32 h⟩

theorem tail_decomp (p : UInt8 → Bool) (s : Bytes) :
    ∃ pre t, s = pre ++ t ∧ (∀ x ∈ t, p x = true) ∧ (∀ c, pre.getLast? = some c → p c = false) := by
  obtain ⟨t, z, hs, ht, hz⟩ := head_decomp p s.reverse
  refine ⟨z.reverse, t.reverse, ?_, by simpa using ht, by simpa using hz⟩
  rw [← List.reverse_append, ← hs, List.reverse_reverse]

theorem spanLen_reverse (p : UInt8 → Bool) (pre t : Bytes) (ht : ∀ x ∈ t, p x = true)
    (hp : ∀ c, pre.getLast? = some c → p c = false) : spanLen p (pre ++ t).reverse = t.length := by
  rw [List.reverse_append, LexL.spanLen_append_all _ _ _ (by simpa using ht), LexL.spanLen_head_false _ _ (by simpa using hp)]
  simp

theorem tail_sp_decomp (s : Bytes) : ∃ pre k, s = pre ++ List.replicate k 32 ∧ pre.getLast? ≠ some 32 := by
  obtain ⟨pre, t, hs, ht, hp⟩ := tail_decomp (· == 32) s
  exact ⟨pre, t.length, by rw [all_sp t ht, hs], fun h => by simpa using hp 32 h⟩

/-! ### `spacesThenComment`: the alternation `(--|//)` -/

/-- the comment markers of the alternation `(--|//)` are `[c, c]` for these two bytes -/
def Mk (c : UInt8) : Prop := c = 45 ∨ c = 47

theorem Mk.ne32 {c : UInt8} (h : Mk c) : c ≠ 32 := by rcases h with rfl | rfl <;> decide
theorem Mk.ne10 {c : UInt8} (h : Mk c) : c ≠ 10 := by rcases h with rfl | rfl <;> decide
theorem Mk.ne13 {c : UInt8} (h : Mk c) : c ≠ 13 := by rcases h with rfl | rfl <;> decide
theorem Mk.ne9 {c : UInt8} (h : Mk c) : c ≠ 9 := by rcases h with rfl | rfl <;> decide

/-- contains neither `-` nor `/` -/
def NoMark (t : Bytes) : Prop := (45 : UInt8) ∉ t ∧ (47 : UInt8) ∉ t

theorem NoMark.not_mem {t : Bytes} (h : NoMark t) {c : UInt8} (hc : Mk c) : c ∉ t := by
  rcases hc with rfl | rfl
  · exact h.1
  · exact h.2

theorem isPrefixOf_pair (c : UInt8) (z : Bytes) : [c, c].isPrefixOf z = true ↔ ∃ r, z = c :: c :: r := by
  rw [List.isPrefixOf_iff_prefix]
  exact ⟨fun ⟨r, h⟩ => ⟨r, h.symm⟩, fun ⟨r, h⟩ => ⟨r, h.symm⟩⟩

theorem not_isPrefixOf_pair (c : UInt8) (z : Bytes) (h : c ∉ z) : [c, c].isPrefixOf z = false :=
  Bool.eq_false_iff.mpr fun hp => by obtain ⟨r, rfl⟩ := (isPrefixOf_pair c z).mp hp; exact h (by simp)

/-- a marker at the start of `z ++ t` lies in `z`, unless `z` is its first byte and `t` starts with the second -/
theorem isPrefixOf_pair_append (c : UInt8) (z t : Bytes) (hz : z ≠ []) (ht : t.head? ≠ some c) :
    [c, c].isPrefixOf (z ++ t) = [c, c].isPrefixOf z := by
  match z, t with
  | [a], [] => rfl
  | [a], b :: t =>
    have : (c == b) = false := by simpa using fun h => ht (by simp [h])
    simp [List.isPrefixOf, this]
  | a :: b :: r, _ => simp [List.isPrefixOf]

/-- normal form: on `<n spaces> ++ z` with `z` not starting with a space -/
theorem spacesThenComment_sp (n : Nat) (z : Bytes) (hz : z.head? ≠ some 32) :
    spacesThenComment (List.replicate n 32 ++ z) =
      if [45, 45].isPrefixOf z then some (n, [45, 45]) else if [47, 47].isPrefixOf z then some (n, [47, 47]) else none := by
  unfold spacesThenComment
  simp only [spanLen_sp n z hz, drop_sp]

theorem spacesThenComment_comment (n : Nat) (c : UInt8) (r : Bytes) (hc : Mk c) :
    spacesThenComment (List.replicate n 32 ++ c :: c :: r) = some (n, [c, c]) := by
  rcases hc with rfl | rfl
  · rw [spacesThenComment_sp n _ (by simp)]; simp
  · rw [spacesThenComment_sp n _ (by simp)]; simp [List.isPrefixOf]

theorem spacesThenComment_some (s : Bytes) (n : Nat) (m : Bytes) (h : spacesThenComment s = some (n, m)) :
    ∃ c r, Mk c ∧ m = [c, c] ∧ s = List.replicate n 32 ++ c :: c :: r := by
  obtain ⟨k, z, rfl, hz⟩ := sp_decomp s
  rw [spacesThenComment_sp k z hz] at h
  split at h
  · obtain ⟨r, rfl⟩ := (isPrefixOf_pair 45 z).mp ‹_›
    cases h; exact ⟨45, r, Or.inl rfl, rfl, rfl⟩
  · split at h
    · obtain ⟨r, rfl⟩ := (isPrefixOf_pair 47 z).mp ‹_›
      cases h; exact ⟨47, r, Or.inr rfl, rfl, rfl⟩
    · cases h

theorem spacesThenComment_sp_nil (n : Nat) : spacesThenComment (List.replicate n 32) = none := by
  simpa using spacesThenComment_sp n [] (by simp)

theorem spacesThenComment_append_lf (x t : Bytes) : spacesThenComment (x ++ 10 :: t) = spacesThenComment x := by
  obtain ⟨n, z, rfl, hz⟩ := sp_decomp x
  rw [List.append_assoc, spacesThenComment_sp n z hz]
  cases z with
  | nil => rw [List.nil_append, spacesThenComment_sp n _ (by simp)]; rfl
  | cons a z =>
    rw [spacesThenComment_sp n _ (by simpa using hz), isPrefixOf_pair_append 45 _ _ (by simp) (by simp),
      isPrefixOf_pair_append 47 _ _ (by simp) (by simp)]

theorem spacesThenComment_append_nomark (x t : Bytes) (ht : NoMark t) :
    spacesThenComment (x ++ t) = spacesThenComment x := by
  obtain ⟨n, z, rfl, hz⟩ := sp_decomp x
  rw [List.append_assoc, spacesThenComment_sp n z hz]
  cases z with
  | nil =>
    obtain ⟨m, z', rfl, hz'⟩ := sp_decomp t
    rw [List.nil_append, ← List.append_assoc, List.replicate_append_replicate, spacesThenComment_sp _ z' hz',
      not_isPrefixOf_pair 45 z' (fun h => ht.1 (by simp [h])), not_isPrefixOf_pair 47 z' (fun h => ht.2 (by simp [h]))]
    rfl
  | cons a z =>
    rw [spacesThenComment_sp n _ (by simpa using hz),
      isPrefixOf_pair_append 45 _ _ (by simp) (fun h => ht.1 (List.mem_of_mem_head? h)),
      isPrefixOf_pair_append 47 _ _ (by simp) (fun h => ht.2 (List.mem_of_mem_head? h))]

theorem spacesThenDashes_eq (s : Bytes) :
    spacesThenDashes s = (spacesThenComment s).bind fun p => if p.2 = [45, 45] then some p.1 else none := by
  unfold spacesThenDashes spacesThenComment
  by_cases h1 : [45, 45].isPrefixOf (s.drop (spanLen (· == 32) s)) = true
  · simp [h1]
  · by_cases h2 : [47, 47].isPrefixOf (s.drop (spanLen (· == 32) s)) = true <;> simp [h1, h2]

theorem spacesThenDashes_eq_some (s : Bytes) (n : Nat) :
    spacesThenDashes s = some n ↔ spacesThenComment s = some (n, [45, 45]) := by
  rw [spacesThenDashes_eq]
  cases spacesThenComment s with
  | none => simp
  | some p => obtain ⟨k, mk⟩ := p; by_cases h : mk = [45, 45] <;> simp [h]

theorem spacesThenComment_none_dashes (s : Bytes) (h : spacesThenComment s = none) : spacesThenDashes s = none := by
  rw [spacesThenDashes_eq, h]; rfl

theorem spacesThenDashes_comment (n : Nat) (r : Bytes) :
    spacesThenDashes (List.replicate n 32 ++ 45 :: 45 :: r) = some n :=
  (spacesThenDashes_eq_some _ n).mpr (spacesThenComment_comment n 45 r (Or.inl rfl))

theorem spacesThenDashes_some (s : Bytes) (n : Nat) (h : spacesThenDashes s = some n) :
    ∃ r, s = List.replicate n 32 ++ 45 :: 45 :: r := by
  obtain ⟨c, r, _, hm, rfl⟩ := spacesThenComment_some s n _ ((spacesThenDashes_eq_some s n).mp h)
  cases hm
  exact ⟨r, rfl⟩

theorem spacesThenDashes_none_of_head (s : Bytes) (h : s.head? ≠ some 32) (h' : s.head? ≠ some 45) :
    spacesThenDashes s = none := by
  cases hs : spacesThenDashes s with
  | none => rfl
  | some n =>
    obtain ⟨r, rfl⟩ := spacesThenDashes_some s n hs
    cases n <;> simp [List.replicate_succ] at h h'

/-! `subTab` and `subCR` replace every byte `x` by `y` -/

theorem map_ite_id (x y : UInt8) (s : Bytes) (h : x ∉ s) : s.map (fun b => if b = x then y else b) = s :=
  (List.map_congr_left fun b hb => if_neg fun e : b = x => h (e ▸ hb)).trans (List.map_id' s)

theorem mem_map_ite {x y z : UInt8} {s : Bytes} (h : z ∈ s.map fun b => if b = x then y else b) : z ∈ s ∨ z = y := by
  obtain ⟨b, hb, rfl⟩ := List.mem_map.mp h
  split
  · exact Or.inr rfl
  · exact Or.inl hb

theorem not_mem_map_ite {x y : UInt8} (hxy : y ≠ x) (s : Bytes) : x ∉ s.map fun b => if b = x then y else b := by
  intro h
  obtain ⟨b, _, hb⟩ := List.mem_map.mp h
  split at hb
  · exact hxy hb
  · rename_i hne; exact hne hb

theorem subTab_append (x y : Bytes) : subTab (x ++ y) = subTab x ++ subTab y := List.map_append
theorem subCR_append (x y : Bytes) : subCR (x ++ y) = subCR x ++ subCR y := List.map_append
theorem subTab_cons (b : UInt8) (r : Bytes) : subTab (b :: r) = (if b = 9 then 32 else b) :: subTab r := rfl
theorem subCR_cons (b : UInt8) (r : Bytes) : subCR (b :: r) = (if b = 13 then 10 else b) :: subCR r := rfl
@[simp] theorem subTab_nil : subTab [] = [] := rfl
@[simp] theorem subCR_nil : subCR [] = [] := rfl

theorem subTab_id (s : Bytes) (h : (9 : UInt8) ∉ s) : subTab s = s := map_ite_id 9 32 s h
theorem subCR_id (s : Bytes) (h : (13 : UInt8) ∉ s) : subCR s = s := map_ite_id 13 10 s h

theorem mem_subTab (s : Bytes) (x : UInt8) (h : x ∈ subTab s) : x ∈ s ∨ x = 32 := mem_map_ite h

theorem subTab_ws (ws : Bytes) (h : ws.all (fun c => c == 32 || c == 9) = true) :
    subTab ws = List.replicate ws.length 32 := by
  induction ws with
  | nil => rfl
  | cons c ws ih =>
    simp only [List.all_cons, Bool.and_eq_true, Bool.or_eq_true, beq_iff_eq] at h
    rw [subTab_cons, ih h.2, List.length_cons, List.replicate_succ]
    rcases h.1 with h1 | h1 <;> simp [h1]

/-- the tab rewrite writes no carriage return -/
theorem subTab_eq_cr {o : Option UInt8} (h : o.map (fun b => if b = 9 then 32 else b) = some 13) : o = some 13 := by
  obtain ⟨b, rfl, hb⟩ := Option.map_eq_some_iff.mp h
  split at hb
  · cases hb
  · rw [hb]

@[simp] theorem subCRLF_nil : subCRLF [] = [] := by rw [subCRLF]
@[simp] theorem subLFCR_nil : subLFCR [] = [] := by rw [subLFCR]

theorem subCRLF_crlf (r : Bytes) : subCRLF (13 :: 10 :: r) = 10 :: subCRLF r := subCRLF.eq_1 r
theorem subLFCR_lfcr (r : Bytes) : subLFCR (10 :: 13 :: r) = 10 :: subLFCR r := subLFCR.eq_1 r

theorem subCRLF_cons (b : UInt8) (r : Bytes) (h : b = 13 → r.head? ≠ some 10) :
    subCRLF (b :: r) = b :: subCRLF r :=
  subCRLF.eq_2 b r fun _ hb hr => h hb (hr ▸ rfl)

theorem subLFCR_cons (b : UInt8) (r : Bytes) (h : b = 10 → r.head? ≠ some 13) :
    subLFCR (b :: r) = b :: subLFCR r :=
  subLFCR.eq_2 b r fun _ hb hr => h hb (hr ▸ rfl)

theorem subCRLF_cons_ne (b : UInt8) (r : Bytes) (h : b ≠ 13) : subCRLF (b :: r) = b :: subCRLF r :=
  subCRLF_cons b r (fun hb => absurd hb h)

theorem subLFCR_cons_ne (b : UInt8) (r : Bytes) (h : b ≠ 10) : subLFCR (b :: r) = b :: subLFCR r :=
  subLFCR_cons b r (fun hb => absurd hb h)

theorem subLFCR_head? (s : Bytes) : (subLFCR s).head? = s.head? := by
  fun_cases subLFCR s <;> rfl

theorem subCRLF_append (x y : Bytes) (h : x.getLast? = some 13 → y.head? ≠ some 10) :
    subCRLF (x ++ y) = subCRLF x ++ subCRLF y := by
  fun_induction subCRLF x with
  | case1 rest ih =>
    rw [List.cons_append, List.cons_append, subCRLF_crlf, ih fun hr => h (by simp [List.getLast?_cons, hr])]; rfl
  | case2 b rest hb ih =>
    rw [List.cons_append, subCRLF_cons b (rest ++ y), ih fun hr => h (by rw [List.getLast?_cons, hr]; rfl), List.cons_append]
    cases rest with
    | nil => intro hb'; exact h (by rw [hb']; rfl)
    | cons c r => intro hb' hc; exact hb r hb' (by rw [← Option.some.inj hc])
  | case3 => rfl

theorem subLFCR_append (x y : Bytes) (h : x.getLast? = some 10 → y.head? ≠ some 13) :
    subLFCR (x ++ y) = subLFCR x ++ subLFCR y := by
  fun_induction subLFCR x with
  | case1 rest ih =>
    rw [List.cons_append, List.cons_append, subLFCR_lfcr, ih fun hr => h (by simp [List.getLast?_cons, hr])]; rfl
  | case2 b rest hb ih =>
    rw [List.cons_append, subLFCR_cons b (rest ++ y), ih fun hr => h (by rw [List.getLast?_cons, hr]; rfl), List.cons_append]
    cases rest with
    | nil => intro hb'; exact h (by rw [hb']; rfl)
    | cons c r => intro hb' hc; exact hb r hb' (by rw [← Option.some.inj hc])
  | case3 => rfl

theorem subCRLF_sublist (s : Bytes) : (subCRLF s).Sublist s := by
  fun_induction subCRLF s with
  | case1 rest ih => exact (ih.cons_cons 10).cons 13
  | case2 b rest _ ih => exact ih.cons_cons b
  | case3 => exact .slnil

theorem subLFCR_sublist (s : Bytes) : (subLFCR s).Sublist s := by
  fun_induction subLFCR s with
  | case1 rest ih => exact (ih.cons 13).cons_cons 10
  | case2 b rest _ ih => exact ih.cons_cons b
  | case3 => exact .slnil

theorem subCRLF_id (s : Bytes) (h : (13 : UInt8) ∉ s) : subCRLF s = s := by
  induction s with
  | nil => rfl
  | cons c s ih => rw [subCRLF_cons_ne c s (fun hc => h (hc ▸ List.mem_cons_self)), ih fun h' => h (List.mem_cons_of_mem _ h')]

theorem subLFCR_id (s : Bytes) (h : (13 : UInt8) ∉ s) : subLFCR s = s := by
  induction s with
  | nil => rfl
  | cons c s ih =>
    rw [subLFCR_cons c s fun _ hs => h (List.mem_cons_of_mem _ (List.mem_of_mem_head? hs)), ih fun h' => h (List.mem_cons_of_mem _ h')]

theorem subCRLF_getLast? (s : Bytes) : (subCRLF s).getLast? = s.getLast? := by
  fun_induction subCRLF s with
  | case1 rest ih => rw [List.getLast?_cons, ih, List.getLast?_cons_cons, List.getLast?_cons]
  | case2 b rest _ ih => rw [List.getLast?_cons, ih, List.getLast?_cons]
  | case3 => rfl

theorem subCRLF_head?_cr (y : Bytes) (h : (subCRLF y).head? = some 13) : y.head? = some 13 := by
  fun_induction subCRLF y with
  | case1 rest _ => cases h
  | case2 b rest _ _ => exact h
  | case3 => cases h

/-- the three line-break rewrites after the tab rewrite -/
def normBreaks (s : Bytes) : Bytes := subCR (subLFCR (subCRLF (subTab s)))

theorem normBreaks_append (x y : Bytes) (hx : x.getLast? ≠ some 13) (hy : y.head? ≠ some 13) :
    normBreaks (x ++ y) = normBreaks x ++ normBreaks y := by
  unfold normBreaks
  rw [subTab_append, subCRLF_append (subTab x) _ (fun h => absurd (subTab_eq_cr (List.getLast?_map.symm.trans h)) hx),
    subLFCR_append _ (subCRLF (subTab y)) (fun _ h => hy (subTab_eq_cr (List.head?_map.symm.trans (subCRLF_head?_cr _ h)))), subCR_append]

theorem normBreaks_ws (ws : Bytes) (h : ws.all (fun c => c == 32 || c == 9) = true) :
    normBreaks ws = List.replicate ws.length 32 := by
  unfold normBreaks
  rw [subTab_ws ws h, subCRLF_id _ (by simp), subLFCR_id _ (by simp), subCR_id _ (by simp)]

theorem ws_head? (ws y : Bytes) (h : ws.all (fun c => c == 32 || c == 9) = true) (hy : y.head? ≠ some 13) :
    (ws ++ y).head? ≠ some 13 := by
  cases ws with
  | nil => simpa using hy
  | cons c ws =>
    simp only [List.all_cons, Bool.and_eq_true, Bool.or_eq_true, beq_iff_eq] at h
    simp; rcases h.1 with h | h <;> simp [h]

theorem normBreaks_ws_append (ws y : Bytes) (hws : ws.all (fun c => c == 32 || c == 9) = true) (hy : y.head? ≠ some 13) :
    normBreaks (ws ++ y) = List.replicate ws.length 32 ++ normBreaks y := by
  rw [normBreaks_append ws y (fun hl => by simpa using List.all_eq_true.mp hws 13 (List.mem_of_getLast? hl)) hy,
    normBreaks_ws ws hws]

theorem normBreaks_getLast?_lf (s : Bytes) (h : s.getLast? = some 10) : (normBreaks s).getLast? = some 10 := by
  have h1 : (subCRLF (subTab s)).getLast? = some 10 := by rw [subCRLF_getLast?, subTab, List.getLast?_map, h]; rfl
  obtain ⟨q, hq⟩ := List.getLast?_eq_some_iff.mp h1
  rw [normBreaks, hq, subLFCR_append _ _ (fun _ => by simp), subLFCR_cons _ _ (by simp), subCR_append]
  simp [subCR]

theorem normBreaks_lf_cons (b : Bytes) : ∃ b', normBreaks (10 :: b) = 10 :: b' := by
  obtain ⟨z, hz⟩ := List.head?_eq_some_iff.mp (subLFCR_head? (10 :: subCRLF (subTab b)))
  exact ⟨subCR z, by
    rw [normBreaks, subTab_cons, if_neg (by decide), subCRLF_cons_ne _ _ (by decide), hz, subCR_cons, if_neg (by decide)]⟩

theorem normBreaks_marker (c : UInt8) (b : Bytes) (hc : Mk c) : normBreaks (c :: c :: b) = c :: c :: normBreaks b := by
  unfold normBreaks
  rw [subTab_cons, subTab_cons, if_neg hc.ne9, subCRLF_cons_ne _ _ hc.ne13, subCRLF_cons_ne _ _ hc.ne13,
    subLFCR_cons_ne _ _ hc.ne10, subLFCR_cons_ne _ _ hc.ne10, subCR_cons, subCR_cons, if_neg hc.ne13]

def Clean (s : Bytes) : Prop := ∀ x ∈ s, x ≠ 9 ∧ x ≠ 13

theorem normBreaks_id (s : Bytes) (h : Clean s) : normBreaks s = s := by
  have h13 : (13 : UInt8) ∉ s := fun h' => (h 13 h').2 rfl
  unfold normBreaks
  rw [subTab_id s fun h' => (h 9 h').1 rfl, subCRLF_id s h13, subLFCR_id s h13, subCR_id s h13]

theorem normBreaks_clean (s : Bytes) : Clean (normBreaks s) := by
  intro x h
  refine ⟨?_, fun h13 => not_mem_map_ite (by decide) _ (h13 ▸ h)⟩
  rintro rfl
  rcases mem_map_ite h with h | h
  · exact not_mem_map_ite (by decide) s ((subCRLF_sublist _).subset ((subLFCR_sublist _).subset h))
  · cases h

/-! ### `dropSpacesBeforeLF` (`dsl`) -/

theorem dsl_nil : dropSpacesBeforeLF [] = [] := by rw [dropSpacesBeforeLF]

theorem dsl_cons_ne (b : UInt8) (r : Bytes) (h : b ≠ 32) :
    dropSpacesBeforeLF (b :: r) = b :: dropSpacesBeforeLF r := by
  rw [dropSpacesBeforeLF]; simp [h]

theorem dsl_sp_lf (n : Nat) (r : Bytes) :
    dropSpacesBeforeLF (List.replicate n 32 ++ 10 :: r) = 10 :: dropSpacesBeforeLF r := by
  cases n with
  | zero => simpa using dsl_cons_ne 10 r (by decide)
  | succ n =>
    rw [List.replicate_succ, List.cons_append, dropSpacesBeforeLF]
    simp only [if_true, spanLen_sp n (10 :: r) (by simp), drop_sp, List.head?_cons]
    exact dsl_cons_ne 10 r (by decide)

theorem dsl_sp_other (n : Nat) (r : Bytes) (h10 : r.head? ≠ some 10) (h32 : r.head? ≠ some 32) :
    dropSpacesBeforeLF (List.replicate n 32 ++ r) = List.replicate n 32 ++ dropSpacesBeforeLF r := by
  induction n with
  | zero => simp
  | succ n ih =>
    rw [List.replicate_succ, List.cons_append, dropSpacesBeforeLF]
    simp only [if_true, spanLen_sp n r h32, drop_sp, h10, if_false, ih, List.cons_append]

theorem dsl_sp (n : Nat) : dropSpacesBeforeLF (List.replicate n 32) = List.replicate n 32 := by
  simpa [dsl_nil] using dsl_sp_other n [] (by simp) (by simp)

theorem dsl_sp_cons (n : Nat) (c : UInt8) (r : Bytes) (h10 : c ≠ 10) (h32 : c ≠ 32) :
    dropSpacesBeforeLF (List.replicate n 32 ++ c :: r) = List.replicate n 32 ++ c :: dropSpacesBeforeLF r := by
  rw [dsl_sp_other n _ (by simpa using h10) (by simpa using h32), dsl_cons_ne c r h32]

/-- induction over a string cut into `<spaces> <non-space byte>` pieces, the line feed apart -/
theorem dsl_induction {motive : Bytes → Prop} (sp : ∀ n, motive (List.replicate n 32))
    (lf : ∀ n z, motive z → motive (List.replicate n 32 ++ 10 :: z))
    (other : ∀ n c z, c ≠ 32 → c ≠ 10 → motive z → motive (List.replicate n 32 ++ c :: z)) : ∀ s, motive s := by
  intro s
  induction h : s.length using Nat.strongRecOn generalizing s with
  | _ len ih =>
    obtain ⟨n, z, rfl, hz⟩ := sp_decomp s
    cases z with
    | nil => simpa using sp n
    | cons c z =>
      have hm : motive z := ih z.length (by subst h; simp; omega) z rfl
      by_cases hc : c = 10
      · exact hc ▸ lf n z hm
      · exact other n c z (by simpa using hz) hc hm

theorem dsl_append (a c : Bytes) (h : a.getLast? ≠ some 32) :
    dropSpacesBeforeLF (a ++ c) = dropSpacesBeforeLF a ++ dropSpacesBeforeLF c := by
  induction a using dsl_induction with
  | sp n =>
    cases n with
    | zero => simp [dsl_nil]
    | succ n => simp [List.getLast?_replicate] at h
  | lf n z ih =>
    rw [List.append_assoc, List.cons_append, dsl_sp_lf, dsl_sp_lf, ih fun h' => h (by rw [getLast?_append_cons, h']; rfl)]; rfl
  | other n b z hb h10 ih =>
    rw [List.append_assoc, List.cons_append, dsl_sp_cons n b _ h10 hb, dsl_sp_cons n b _ h10 hb,
      ih fun h' => h (by rw [getLast?_append_cons, h']; rfl)]
    simp

theorem dsl_getLast? (a : Bytes) : (dropSpacesBeforeLF a).getLast? = a.getLast? := by
  induction a using dsl_induction with
  | sp n => rw [dsl_sp]
  | lf n z ih => rw [dsl_sp_lf, getLast?_append_cons, List.getLast?_cons, ih]
  | other n b z hb h10 ih => rw [dsl_sp_cons n b _ h10 hb, getLast?_append_cons, getLast?_append_cons, ih]

theorem dsl_spaces_lf (x : Bytes) (j : Nat) (y : Bytes) :
    dropSpacesBeforeLF (x ++ List.replicate j 32 ++ 10 :: y) = dropSpacesBeforeLF (x ++ 10 :: y) := by
  obtain ⟨pre, k, rfl, hp⟩ := tail_sp_decomp x
  have e1 : pre ++ List.replicate k 32 ++ List.replicate j 32 ++ 10 :: y = pre ++ (List.replicate (k + j) 32 ++ 10 :: y) := by
    simp [← List.replicate_append_replicate]
  rw [e1, List.append_assoc, dsl_append _ _ hp, dsl_append _ _ hp, dsl_sp_lf, dsl_sp_lf]

/-- no space is directly followed by a line feed -/
def NoSpLF : Bytes → Prop
  | [] => True
  | b :: r => (b = 32 → r.head? ≠ some 10) ∧ NoSpLF r

@[simp] theorem NoSpLF_nil : NoSpLF [] := trivial

theorem NoSpLF_append (a b : Bytes) :
    NoSpLF (a ++ b) ↔ NoSpLF a ∧ (a.getLast? = some 32 → b.head? ≠ some 10) ∧ NoSpLF b := by
  induction a with
  | nil => simp
  | cons c a ih =>
    rw [List.cons_append, NoSpLF, NoSpLF, ih]
    cases a with
    | nil => simp
    | cons c' a => simp [List.getLast?_cons_cons, and_assoc]

theorem NoSpLF_sp (n : Nat) : NoSpLF (List.replicate n 32) := by
  induction n with
  | zero => trivial
  | succ n ih => rw [List.replicate_succ, NoSpLF]; exact ⟨by cases n <;> simp [List.replicate_succ], ih⟩

theorem NoSpLF_sp_append (n : Nat) (x : Bytes) (h : x.head? ≠ some 10) : NoSpLF (List.replicate n 32 ++ x) ↔ NoSpLF x := by
  rw [NoSpLF_append]
  simp [NoSpLF_sp, h]

theorem NoSpLF_index (s : Bytes) (h : NoSpLF s) (i : Nat) (h1 : s[i + 1]? = some 10) : s[i]? ≠ some 32 := by
  induction s generalizing i with
  | nil => simp
  | cons c s ih =>
    cases i with
    | zero => exact fun hc => h.1 (Option.some.inj hc) (List.head?_eq_getElem? ▸ h1)
    | succ i => exact ih h.2 i h1

theorem NoSpLF_dsl (a : Bytes) : NoSpLF (dropSpacesBeforeLF a) := by
  induction a using dsl_induction with
  | sp n => rw [dsl_sp]; exact NoSpLF_sp n
  | lf n z ih => rw [dsl_sp_lf]; exact ⟨by simp, ih⟩
  | other n b z hb h10 ih =>
    rw [dsl_sp_cons n b _ h10 hb, NoSpLF_sp_append _ _ (by simp [h10])]
    exact ⟨by simp [hb], ih⟩

theorem dsl_of_NoSpLF (a : Bytes) (h : NoSpLF a) : dropSpacesBeforeLF a = a := by
  induction a using dsl_induction with
  | sp n => rw [dsl_sp]
  | lf n z ih =>
    cases n with
    | zero => rw [dsl_sp_lf, ih h.2]; rfl
    | succ n => exact absurd rfl (((NoSpLF_append _ _).mp h).2.1 (by simp [List.getLast?_replicate]))
  | other n b z hb h10 ih => rw [dsl_sp_cons n b _ h10 hb, ih ((NoSpLF_sp_append _ _ (by simp [h10])).mp h).2]

/-! ### the start rewrites

`subStartComment` and `subStartAnyComment` both set the indentation of a comment that starts the string; which markers
they look at and how many spaces they write is the parameter `k`. -/

theorem drop_comment (n : Nat) (a b : UInt8) (r : Bytes) : (List.replicate n (32 : UInt8) ++ a :: b :: r).drop (n + 2) = r := by
  rw [← List.drop_drop, drop_sp]; rfl

def reindent (k : Bytes → Option Nat) (s : Bytes) : Bytes :=
  match spacesThenComment s with
  | some (n, mk) =>
    match k mk with
    | some j => List.replicate j 32 ++ s.drop n
    | none => s
  | none => s

theorem subStartAnyComment_eq (s : Bytes) : subStartAnyComment s = reindent (fun _ => some 0) s := by
  unfold subStartAnyComment reindent
  cases spacesThenComment s with
  | none => rfl
  | some p => simp

/-- the `--` comments only -/
def dashes (j : Nat) (mk : Bytes) : Option Nat := if mk = [45, 45] then some j else none

theorem subStartComment_eq (j : Nat) (s : Bytes) :
    subStartComment (List.replicate j 32 ++ [45, 45]) s = reindent (dashes j) s := by
  unfold subStartComment reindent
  rw [spacesThenDashes_eq]
  cases h : spacesThenComment s with
  | none => rfl
  | some p =>
    obtain ⟨n, m⟩ := p
    obtain ⟨c, r, hc, rfl, rfl⟩ := spacesThenComment_some s n m h
    rcases hc with rfl | rfl
    · simp [dashes, drop_comment]
    · simp [dashes]

/-- a comment that starts `s` is indented as `k` says: what `reindent k` establishes, and where it is the identity -/
def StartK (k : Bytes → Option Nat) (s : Bytes) : Prop :=
  ∀ n mk, spacesThenComment s = some (n, mk) → ∀ j, k mk = some j → n = j

theorem StartK_congr {k : Bytes → Option Nat} {s t : Bytes} (h : spacesThenComment t = spacesThenComment s)
    (hs : StartK k s) : StartK k t := fun n mk hn => hs n mk (h ▸ hn)

theorem reindent_cases (k : Bytes → Option Nat) (s : Bytes) :
    ((∀ n mk, spacesThenComment s = some (n, mk) → k mk = none) ∧ reindent k s = s) ∨
    ∃ n c r j, Mk c ∧ k [c, c] = some j ∧ s = List.replicate n 32 ++ c :: c :: r ∧
      reindent k s = List.replicate j 32 ++ c :: c :: r := by
  unfold reindent
  cases h : spacesThenComment s with
  | none => exact .inl ⟨nofun, rfl⟩
  | some p =>
    obtain ⟨n, m⟩ := p
    obtain ⟨c, r, hc, rfl, rfl⟩ := spacesThenComment_some s n m h
    cases hk : k [c, c] with
    | none => exact .inl ⟨fun _ _ e => by cases e; exact hk, by simp only [hk]⟩
    | some j => exact .inr ⟨n, c, r, j, hc, hk, rfl, by simp only [hk, drop_sp]⟩

theorem reindent_append_lf (k : Bytes → Option Nat) (x t : Bytes) :
    reindent k (x ++ 10 :: t) = reindent k x ++ 10 :: t := by
  rcases reindent_cases k x with ⟨h, e⟩ | ⟨n, c, r, j, hc, hk, rfl, e⟩
  · rw [e]
    rcases reindent_cases k (x ++ 10 :: t) with ⟨_, e'⟩ | ⟨n, c, r, j, hc, hk, hx, _⟩
    · exact e'
    · have := h n [c, c] (by rw [← spacesThenComment_append_lf x t, hx, spacesThenComment_comment n c r hc])
      rw [this] at hk; cases hk
  · rw [e]; simp only [List.append_assoc, List.cons_append]
    unfold reindent
    rw [spacesThenComment_comment n c _ hc]
    simp only [hk, drop_sp]

theorem StartK_reindent (k : Bytes → Option Nat) (s : Bytes) : StartK k (reindent k s) := by
  intro n mk hn j hj
  rcases reindent_cases k s with ⟨h, e⟩ | ⟨i, c, r, j', hc, hk, rfl, e⟩
  · rw [e] at hn; rw [h n mk hn] at hj; cases hj
  · rw [e] at hn
    cases hn.symm.trans (spacesThenComment_comment j' c r hc)
    exact Option.some.inj (hk.symm.trans hj)

theorem reindent_id (k : Bytes → Option Nat) (s : Bytes) (h : StartK k s) : reindent k s = s := by
  rcases reindent_cases k s with ⟨_, e⟩ | ⟨n, c, r, j, hc, hk, rfl, e⟩
  · exact e
  · rw [e, h n _ (spacesThenComment_comment n c r hc) j hk]

theorem NoSpLF_reindent (k : Bytes → Option Nat) (s : Bytes) (h : NoSpLF s) : NoSpLF (reindent k s) := by
  rcases reindent_cases k s with ⟨_, e⟩ | ⟨n, c, r, j, hc, _, rfl, e⟩
  · rwa [e]
  · rw [e, NoSpLF_sp_append _ _ (by simp [hc.ne10])]
    exact (NoSpLF_sp_append _ _ (by simp [hc.ne10])).mp h

/-! ### `subLineComment` (`slc`) -/

@[simp] theorem slc_nil (ind : Bytes) : subLineComment ind [] = [] := by rw [subLineComment]

theorem slc_cons_ne (ind : Bytes) (b : UInt8) (r : Bytes) (h : b ≠ 10) :
    subLineComment ind (b :: r) = b :: subLineComment ind r := by
  rw [subLineComment]; simp [h]

theorem slc_lf_none (ind r : Bytes) (h : spacesThenComment r = none) :
    subLineComment ind (10 :: r) = 10 :: subLineComment ind r := by
  rw [subLineComment]; simp [h]

theorem slc_lf_comment (ind : Bytes) (n : Nat) (c : UInt8) (r : Bytes) (hc : Mk c) :
    subLineComment ind (10 :: (List.replicate n 32 ++ c :: c :: r)) = 10 :: (ind ++ c :: c :: subLineComment ind r) := by
  rw [subLineComment]
  simp only [if_true, spacesThenComment_comment n c r hc, drop_comment]
  simp

theorem slc_induction {motive : Bytes → Prop} (nil : motive [])
    (other : ∀ b r, b ≠ 10 → motive r → motive (b :: r))
    (comment : ∀ n c r, Mk c → motive r → motive (10 :: (List.replicate n 32 ++ c :: c :: r)))
    (lf : ∀ r, spacesThenComment r = none → motive r → motive (10 :: r)) : ∀ s, motive s := by
  intro s
  induction s using subLineComment.induct with
  | case1 => exact nil
  | case2 rest n m h ih =>
    obtain ⟨c, r, hc, _, rfl⟩ := spacesThenComment_some rest n m h
    rw [drop_comment] at ih
    exact comment n c r hc ih
  | case3 rest h ih => exact lf rest h ih
  | case4 b rest hb ih => exact other b rest hb ih

theorem slc_no_lf (ind s : Bytes) (h : (10 : UInt8) ∉ s) : subLineComment ind s = s := by
  induction s with
  | nil => simp
  | cons c s ih => simp at h; rw [slc_cons_ne ind c s (Ne.symm h.1), ih h.2]

theorem slc_lf_sp (ind : Bytes) (k : Nat) :
    subLineComment ind (10 :: List.replicate k 32) = 10 :: List.replicate k 32 := by
  rw [slc_lf_none _ _ (spacesThenComment_sp_nil k), slc_no_lf _ _ (by simp)]

theorem slc_append_lf (ind a t : Bytes) :
    subLineComment ind (a ++ 10 :: t) = subLineComment ind a ++ subLineComment ind (10 :: t) := by
  induction a using slc_induction with
  | nil => simp
  | other b r hb ih => rw [List.cons_append, slc_cons_ne _ _ _ hb, slc_cons_ne _ _ _ hb, ih, List.cons_append]
  | comment n c r hc ih =>
    rw [List.cons_append, List.append_assoc, List.cons_append, List.cons_append, slc_lf_comment _ _ _ _ hc,
      slc_lf_comment _ _ _ _ hc, ih]
    simp
  | lf r h ih =>
    rw [List.cons_append, slc_lf_none _ _ h, slc_lf_none, ih, List.cons_append]
    rw [spacesThenComment_append_lf, h]

theorem slc_head? (ind s : Bytes) : (subLineComment ind s).head? = s.head? := by
  fun_cases subLineComment ind s <;> rfl

theorem slc_lf_head (ind t : Bytes) : ∃ t', subLineComment ind (10 :: t) = 10 :: t' :=
  List.head?_eq_some_iff.mp (slc_head? ind (10 :: t))

theorem spacesThenComment_slc (ind s : Bytes) : spacesThenComment (subLineComment ind s) = spacesThenComment s := by
  by_cases h : (10 : UInt8) ∈ s
  · obtain ⟨t, z, rfl, ht⟩ := List.eq_append_cons_of_mem h
    obtain ⟨t', e⟩ := slc_lf_head ind z
    rw [slc_append_lf, slc_no_lf _ _ ht, e, spacesThenComment_append_lf, spacesThenComment_append_lf]
  · rw [slc_no_lf _ _ h]

theorem NoSpLF_slc (m : Nat) (s : Bytes) (h : NoSpLF s) : NoSpLF (subLineComment (List.replicate m 32) s) := by
  induction s using slc_induction with
  | nil => simp
  | other b r hb ih =>
    rw [slc_cons_ne _ _ _ hb]
    exact ⟨by rw [slc_head?]; exact h.1, ih h.2⟩
  | comment n c r hc ih =>
    have h2 := (NoSpLF_sp_append _ _ (by simp [hc.ne10])).mp h.2
    rw [slc_lf_comment _ _ _ _ hc]
    exact ⟨by simp, (NoSpLF_sp_append _ _ (by simp [hc.ne10])).mpr ⟨by simp [hc.ne32], by simp [hc.ne32], ih h2.2.2⟩⟩
  | lf r hr ih =>
    rw [slc_lf_none _ _ hr]
    exact ⟨by simp, ih h.2⟩

/-- every `<LF> <spaces> --` and `<LF> <spaces> //` has exactly `m` spaces -/
def LineOK (m : Nat) : Bytes → Prop
  | [] => True
  | b :: r => (b = 10 → ∀ n mk, spacesThenComment r = some (n, mk) → n = m) ∧ LineOK m r

@[simp] theorem LineOK_nil (m : Nat) : LineOK m [] := trivial
theorem LineOK_cons_ne (m : Nat) (c : UInt8) (r : Bytes) (h : c ≠ 10) : LineOK m (c :: r) ↔ LineOK m r := by
  show _ ∧ _ ↔ _
  simp [h]

theorem LineOK_sp_append (m n : Nat) (x : Bytes) : LineOK m (List.replicate n 32 ++ x) ↔ LineOK m x := by
  induction n with
  | zero => simp
  | succ n ih => rw [List.replicate_succ, List.cons_append, LineOK_cons_ne _ _ _ (by decide), ih]

theorem NoMark_tail {c : UInt8} {t : Bytes} (h : NoMark (c :: t)) : NoMark t :=
  ⟨fun h' => h.1 (List.mem_cons_of_mem _ h'), fun h' => h.2 (List.mem_cons_of_mem _ h')⟩

theorem LineOK_nomark (m : Nat) (t : Bytes) (h : NoMark t) : LineOK m t := by
  induction t with
  | nil => trivial
  | cons c t ih =>
    refine ⟨?_, ih (NoMark_tail h)⟩
    intro _ n mk hn
    have := spacesThenComment_append_nomark [] t (NoMark_tail h)
    rw [List.nil_append, hn] at this
    cases this.trans (spacesThenComment_sp_nil 0)

theorem LineOK_append_nomark (m : Nat) (a t : Bytes) (h : NoMark t) : LineOK m (a ++ t) ↔ LineOK m a := by
  induction a with
  | nil => simp [LineOK_nomark m t h]
  | cons c a ih =>
    rw [List.cons_append, LineOK, LineOK, ih, spacesThenComment_append_nomark a t h]

theorem LineOK_reindent (k : Bytes → Option Nat) (m : Nat) (s : Bytes) (h : LineOK m s) : LineOK m (reindent k s) := by
  rcases reindent_cases k s with ⟨_, e⟩ | ⟨n, c, r, j, _, _, rfl, e⟩
  · rwa [e]
  · rw [e, LineOK_sp_append]; exact (LineOK_sp_append ..).mp h

theorem LineOK_slc (m : Nat) (s : Bytes) : LineOK m (subLineComment (List.replicate m 32) s) := by
  induction s using slc_induction with
  | nil => simp
  | other b r hb ih => rw [slc_cons_ne _ _ _ hb, LineOK_cons_ne _ _ _ hb]; exact ih
  | comment n c r hc ih =>
    rw [slc_lf_comment _ _ _ _ hc]
    refine ⟨?_, ?_⟩
    · intro _ k mk hk; rw [spacesThenComment_comment _ _ _ hc] at hk; simp at hk; exact hk.1.symm
    · rw [LineOK_sp_append, LineOK_cons_ne _ _ _ hc.ne10, LineOK_cons_ne _ _ _ hc.ne10]; exact ih
  | lf r hr ih =>
    rw [slc_lf_none _ _ hr]
    refine ⟨?_, ih⟩
    intro _ k mk hk; rw [spacesThenComment_slc, hr] at hk; simp at hk

theorem slc_of_LineOK (m : Nat) (s : Bytes) (h : LineOK m s) : subLineComment (List.replicate m 32) s = s := by
  induction s using slc_induction with
  | nil => simp
  | other b r hb ih => rw [slc_cons_ne _ _ _ hb, ih ((LineOK_cons_ne _ _ _ hb).mp h)]
  | comment n c r hc ih =>
    have hn := h.1 rfl n _ (spacesThenComment_comment n c r hc)
    have h2 := h.2
    rw [LineOK_sp_append, LineOK_cons_ne _ _ _ hc.ne10, LineOK_cons_ne _ _ _ hc.ne10] at h2
    rw [slc_lf_comment _ _ _ _ hc, ih h2, hn]
  | lf r hr ih => rw [slc_lf_none _ _ hr, ih h.2]

theorem subFinalIndent_spec (ind pre : Bytes) (k : Nat) (hp : pre.getLast? ≠ some 32) :
    subFinalIndent ind (pre ++ List.replicate k 32) =
      if pre.getLast? = some 10 then pre ++ ind else pre ++ List.replicate k 32 := by
  unfold subFinalIndent
  have hs : spanLen (· == 32) (pre ++ List.replicate k 32).reverse = k := by
    rw [spanLen_reverse (· == 32) pre (List.replicate k 32) (by simp) (by intro c hc; simp; rintro rfl; exact hp hc)]
    simp
  simp only [hs]
  rw [show (pre ++ List.replicate k (32 : UInt8)).length - k = pre.length by simp, List.take_left' rfl]

theorem subFinalIndent_nil (ind : Bytes) : subFinalIndent ind [] = [] := rfl

theorem subFinalIndent_lf (ind Y : Bytes) (k : Nat) :
    subFinalIndent ind (Y ++ 10 :: List.replicate k 32) = Y ++ 10 :: ind := by
  have := subFinalIndent_spec ind (Y ++ [10]) k (by simp)
  simpa using this

theorem subFinalIndent_cases (ind s : Bytes) :
    ∃ pre k, s = pre ++ List.replicate k 32 ∧ pre.getLast? ≠ some 32 ∧
      ((pre.getLast? = some 10 ∧ subFinalIndent ind s = pre ++ ind) ∨ (pre.getLast? ≠ some 10 ∧ subFinalIndent ind s = s)) := by
  obtain ⟨pre, k, rfl, hp⟩ := tail_sp_decomp s
  refine ⟨pre, k, rfl, hp, ?_⟩
  rw [subFinalIndent_spec ind pre k hp]
  by_cases h : pre.getLast? = some 10
  · exact Or.inl ⟨h, if_pos h⟩
  · exact Or.inr ⟨h, if_neg h⟩

theorem subFinalIndent_idem (m : Nat) (s : Bytes) :
    subFinalIndent (List.replicate m 32) (subFinalIndent (List.replicate m 32) s) = subFinalIndent (List.replicate m 32) s := by
  obtain ⟨pre, k, rfl, hp, ⟨h10, e⟩ | ⟨_, e⟩⟩ := subFinalIndent_cases (List.replicate m 32) s
  · rw [e, subFinalIndent_spec _ pre m hp, if_pos h10]
  · rw [e, e]

theorem subAllSpaces_cases (s : Bytes) : (s.all (· == 32) = true ∧ subAllSpaces s = []) ∨ (s.all (· == 32) = false ∧ subAllSpaces s = s) := by
  unfold subAllSpaces
  cases h : s.all (· == 32) <;> simp

theorem subAllSpaces_nil : subAllSpaces [] = [] := rfl

theorem subAllSpaces_of_mem (s : Bytes) (x : UInt8) (hx : x ∈ s) (h : x ≠ 32) : subAllSpaces s = s := by
  rcases subAllSpaces_cases s with ⟨ha, _⟩ | ⟨_, e⟩
  · exact absurd (by simpa using List.all_eq_true.mp ha x hx) h
  · exact e

@[simp] theorem collapseLF_nil : collapseLF [] = [] := by rw [collapseLF]

theorem collapseLF_lf3 (r : Bytes) : collapseLF (10 :: 10 :: 10 :: r) = collapseLF (10 :: 10 :: r) := collapseLF.eq_1 r

theorem collapseLF_cons (b : UInt8) (r : Bytes) (h : b = 10 → r[0]? = some 10 → r[1]? = some 10 → False) :
    collapseLF (b :: r) = b :: collapseLF r :=
  collapseLF.eq_2 b r fun _ hb hr => h hb (hr ▸ rfl) (hr ▸ rfl)

theorem collapseLF_cons_ne (b : UInt8) (r : Bytes) (h : b ≠ 10) : collapseLF (b :: r) = b :: collapseLF r :=
  collapseLF_cons b r (fun hb => absurd hb h)

theorem collapseLF_getElem? (s : Bytes) (i : Nat) (hi : i < 2) : (collapseLF s)[i]? = s[i]? := by
  fun_induction collapseLF s generalizing i with
  | case1 rest ih =>
    rw [ih i hi]
    match i, hi with
    | 0, _ => rfl
    | 1, _ => rfl
  | case2 b rest _ ih =>
    match i, hi with
    | 0, _ => rfl
    | 1, _ => exact ih 0 (by decide)
  | case3 => rfl

theorem collapseLF_head? (s : Bytes) : (collapseLF s).head? = s.head? := by
  rw [List.head?_eq_getElem?, List.head?_eq_getElem?, collapseLF_getElem? s 0 (by decide)]

theorem collapseLF_getLast? (s : Bytes) : (collapseLF s).getLast? = s.getLast? := by
  fun_induction collapseLF s with
  | case1 rest ih => rw [ih, List.getLast?_cons_cons, List.getLast?_cons_cons, List.getLast?_cons_cons]
  | case2 b rest _ ih => rw [List.getLast?_cons, ih, List.getLast?_cons]
  | case3 => rfl

theorem mem_collapseLF (s : Bytes) (x : UInt8) : x ∈ collapseLF s ↔ x ∈ s := by
  fun_induction collapseLF s with
  | case1 rest ih => rw [ih]; simp
  | case2 b rest _ ih => rw [List.mem_cons, ih, List.mem_cons]
  | case3 => rfl

theorem collapseLF_no_lf (s : Bytes) (h : (10 : UInt8) ∉ s) : collapseLF s = s := by
  induction s with
  | nil => simp
  | cons c s ih => simp at h; rw [collapseLF_cons_ne c s (Ne.symm h.1), ih h.2]

theorem collapseLF_append (a c : Bytes) (h : a.getLast? = some 10 → c.head? ≠ some 10) :
    collapseLF (a ++ c) = collapseLF a ++ collapseLF c := by
  fun_induction collapseLF a with
  | case1 rest ih =>
    rw [List.cons_append, List.cons_append, List.cons_append, collapseLF_lf3]
    exact ih (by simpa [List.getLast?_cons_cons] using h)
  | case2 b rest hb ih =>
    rw [List.cons_append, collapseLF_cons b (rest ++ c), ih fun hr => h (by rw [List.getLast?_cons, hr]; rfl), List.cons_append]
    intro hb' h0 h1
    -- a third line feed at the head of `rest ++ c` would be the first of `c`, after a line feed
    match rest with
    | [] => exact h (by rw [hb']; rfl) (List.head?_eq_getElem? ▸ h0)
    | [x] => exact h (by rw [← Option.some.inj h0]; rfl) (List.head?_eq_getElem? ▸ h1)
    | x :: y :: r => exact hb r hb' (by rw [Option.some.inj h0, Option.some.inj h1])
  | case3 => rfl

theorem collapseLF_append_noLF (a t : Bytes) (ht : (10 : UInt8) ∉ t) : collapseLF (a ++ t) = collapseLF a ++ t := by
  rw [collapseLF_append _ _ (fun _ h => ht (List.mem_of_mem_head? h)), collapseLF_no_lf t ht]

theorem collapseLF_append_sp (pre : Bytes) (k : Nat) :
    collapseLF (pre ++ List.replicate k 32) = collapseLF pre ++ List.replicate k 32 :=
  collapseLF_append_noLF pre _ (by simp)

theorem subFinalIndent_collapseLF (m : Nat) (v : Bytes) :
    subFinalIndent (List.replicate m 32) (collapseLF v) = collapseLF (subFinalIndent (List.replicate m 32) v) := by
  obtain ⟨pre, k, rfl, hp⟩ := tail_sp_decomp v
  rw [collapseLF_append_sp, subFinalIndent_spec _ _ k (by rwa [collapseLF_getLast?]), collapseLF_getLast?,
    subFinalIndent_spec _ pre k hp]
  split <;> rw [collapseLF_append_sp]

theorem collapseLF_snoc_lf (P : Bytes) : ∃ B, collapseLF (P ++ [10]) = B ++ [10] :=
  List.getLast?_eq_some_iff.mp (by rw [collapseLF_getLast?]; simp)

theorem spacesThenComment_collapseLF (s : Bytes) : spacesThenComment (collapseLF s) = spacesThenComment s := by
  by_cases h : (10 : UInt8) ∈ s
  · obtain ⟨t, z, rfl, ht⟩ := List.eq_append_cons_of_mem h
    obtain ⟨t', e⟩ := List.head?_eq_some_iff.mp (collapseLF_head? (10 :: z))
    rw [collapseLF_append _ _ fun hl => absurd (List.mem_of_getLast? hl) ht, collapseLF_no_lf _ ht, e,
      spacesThenComment_append_lf, spacesThenComment_append_lf]
  · rw [collapseLF_no_lf _ h]

theorem NoSpLF_collapseLF (s : Bytes) (h : NoSpLF s) : NoSpLF (collapseLF s) := by
  fun_induction collapseLF s with
  | case1 rest ih => exact ih h.2
  | case2 b rest _ ih => exact ⟨by rw [collapseLF_head?]; exact h.1, ih h.2⟩
  | case3 => trivial

theorem LineOK_collapseLF (m : Nat) (s : Bytes) (h : LineOK m s) : LineOK m (collapseLF s) := by
  fun_induction collapseLF s with
  | case1 rest ih => exact ih h.2
  | case2 b rest _ ih => exact ⟨by rw [spacesThenComment_collapseLF]; exact h.1, ih h.2⟩
  | case3 => trivial

def NoTriple : Bytes → Prop
  | [] => True
  | b :: r => (b = 10 → r[0]? = some 10 → r[1]? = some 10 → False) ∧ NoTriple r

@[simp] theorem NoTriple_nil : NoTriple [] := trivial
theorem NoTriple_cons (b : UInt8) (r : Bytes) :
    NoTriple (b :: r) ↔ (b = 10 → r[0]? = some 10 → r[1]? = some 10 → False) ∧ NoTriple r := Iff.rfl

theorem NoTriple_index (s : Bytes) (h : NoTriple s) (i : Nat) :
    ¬ (s[i]? = some 10 ∧ s[i + 1]? = some 10 ∧ s[i + 2]? = some 10) := by
  induction s generalizing i with
  | nil => simp
  | cons c s ih =>
    cases i with
    | zero => exact fun ⟨hc, h0, h1⟩ => h.1 (Option.some.inj hc) h0 h1
    | succ i => exact ih h.2 i

theorem collapseLF_of_NoTriple (s : Bytes) (h : NoTriple s) : collapseLF s = s := by
  induction s with
  | nil => simp
  | cons c s ih => rw [collapseLF_cons c s h.1, ih h.2]

theorem NoTriple_collapseLF (s : Bytes) : NoTriple (collapseLF s) := by
  fun_induction collapseLF s with
  | case1 _ ih => exact ih
  | case2 b rest hb ih =>
    refine ⟨fun hb' h0 h1 => ?_, ih⟩
    rw [collapseLF_getElem? _ _ (by decide)] at h0 h1
    obtain ⟨r', rfl⟩ := cons_cons_of_getElem? h0 h1
    exact hb r' hb' rfl
  | case3 => trivial

/-- replacing what follows a byte other than a line feed by at most one byte makes no third line feed -/
theorem NoTriple_tail (pre t u : Bytes) (hp : pre.getLast? ≠ some 10) (hu : u.length ≤ 1) (h : NoTriple (pre ++ t)) :
    NoTriple (pre ++ u) := by
  induction pre with
  | nil =>
    match u, hu with
    | [], _ => trivial
    | [x], _ => exact ⟨fun _ h0 => (nomatch h0), trivial⟩
  | cons c p ih =>
    refine ⟨fun hc h0 h1 => ?_, ih (fun hl => hp (by rw [List.getLast?_cons, hl]; rfl)) h.2⟩
    match p with
    | [] => exact hp (by rw [hc]; rfl)
    | [x] => exact hp (by rw [← Option.some.inj h0]; rfl)
    | x :: y :: p' => exact h.1 hc h0 h1

/-- spaces and line feeds only -/
def Blank (t : Bytes) : Prop := ∀ x ∈ t, x = 32 ∨ x = 10

theorem Blank.append {a b : Bytes} (ha : Blank a) (hb : Blank b) : Blank (a ++ b) :=
  fun x hx => (List.mem_append.mp hx).elim (ha x) (hb x)

theorem Blank.rep (n : Nat) : Blank (List.replicate n 32) := fun _ hx => Or.inl (List.eq_of_mem_replicate hx)

theorem Blank.noMark {t : Bytes} (ht : Blank t) : NoMark t := by
  constructor <;> intro h <;> rcases ht _ h with h | h <;> cases h

theorem subTrailing_spec (pre t : Bytes) (hp : pre.getLast? ≠ some 32 ∧ pre.getLast? ≠ some 10) (ht : Blank t) :
    subTrailing (pre ++ t) = pre ++ (if t.contains 10 then [10] else []) := by
  unfold subTrailing
  have hs : spanLen (fun b => b == 32 || b == 10) (pre ++ t).reverse = t.length := by
    apply spanLen_reverse
    · intro x hx; simpa using ht x hx
    · intro c hc; simp; constructor <;> rintro rfl
      · exact hp.1 hc
      · exact hp.2 hc
  simp only [hs]
  rw [show (pre ++ t).length - t.length = pre.length by simp, List.take_left' rfl, List.drop_left' rfl]
  split
  · rename_i h0
    have : t = [] := List.length_eq_zero_iff.mp h0
    subst this; simp
  · rfl

theorem subTrailing_cases (s : Bytes) :
    ∃ pre t, s = pre ++ t ∧ (pre.getLast? ≠ some 32 ∧ pre.getLast? ≠ some 10) ∧ Blank t ∧
      subTrailing s = pre ++ (if t.contains 10 then [10] else []) := by
  obtain ⟨pre, t, rfl, ht, hp⟩ := tail_decomp (fun b => b == 32 || b == 10) s
  have hp' : pre.getLast? ≠ some 32 ∧ pre.getLast? ≠ some 10 :=
    ⟨fun h => by simpa using hp 32 h, fun h => by simpa using hp 10 h⟩
  have ht' : Blank t := fun x hx => by simpa using ht x hx
  exact ⟨pre, t, rfl, hp', ht', subTrailing_spec pre t hp' ht'⟩

/-- `subTrailing` sees of a blank tail only whether it holds a line feed -/
theorem subTrailing_congr (P t t' : Bytes) (ht : Blank t) (ht' : Blank t') (hc : t'.contains 10 = t.contains 10) :
    subTrailing (P ++ t') = subTrailing (P ++ t) := by
  obtain ⟨pre, u, rfl, hp, hu, _⟩ := subTrailing_cases P
  rw [List.append_assoc, List.append_assoc, subTrailing_spec pre _ hp (hu.append ht), subTrailing_spec pre _ hp (hu.append ht'),
    List.contains_append, List.contains_append, hc]

theorem NoTriple_subTrailing (s : Bytes) (h : NoTriple s) : NoTriple (subTrailing s) := by
  obtain ⟨pre, t, rfl, hp, _, e⟩ := subTrailing_cases s
  rw [e]
  exact NoTriple_tail pre t _ hp.2 (by split <;> simp) h

/-! ### the end-of-run rewrites edit the blank tail

`subFinalIndent`, `subAllSpaces` and `subTrailing` each replace a tail of spaces and line feeds by another such tail;
what such an edit keeps is proved once for the three. -/

/-- `s'` is `s` with a blank tail replaced by another one that holds a line feed iff the first did and brings no space
in front of a line feed -/
def TailEdit (s s' : Bytes) : Prop :=
  ∃ pre t t', s = pre ++ t ∧ s' = pre ++ t' ∧ Blank t ∧ Blank t' ∧ t'.contains 10 = t.contains 10 ∧
    NoSpLF t' ∧ (pre.getLast? = some 32 → t'.head? ≠ some 10)

theorem TailEdit.refl (s : Bytes) : TailEdit s s :=
  ⟨s, [], [], by simp, by simp, nofun, nofun, rfl, trivial, by simp⟩

theorem tailEdit_subFinalIndent (m : Nat) (s : Bytes) : TailEdit s (subFinalIndent (List.replicate m 32) s) := by
  obtain ⟨pre, k, rfl, _, ⟨_, e⟩ | ⟨_, e⟩⟩ := subFinalIndent_cases (List.replicate m 32) s
  · exact ⟨pre, _, _, rfl, e, .rep k, .rep m, by simp, NoSpLF_sp m, by cases m <;> simp [List.replicate_succ]⟩
  · rw [e]; exact .refl _

theorem tailEdit_subAllSpaces (s : Bytes) : TailEdit s (subAllSpaces s) := by
  rcases subAllSpaces_cases s with ⟨h, e⟩ | ⟨_, e⟩ <;> rw [e]
  · rw [← all_sp s (List.all_eq_true.mp h)]
    exact ⟨[], _, [], rfl, rfl, .rep _, nofun, by simp, trivial, by simp⟩
  · exact .refl _

theorem tailEdit_subTrailing (s : Bytes) : TailEdit s (subTrailing s) := by
  obtain ⟨pre, t, rfl, hp, ht, e⟩ := subTrailing_cases s
  refine ⟨pre, t, _, rfl, e, ht, ?_⟩
  cases t.contains 10
  · exact ⟨nofun, rfl, trivial, by simp⟩
  · exact ⟨by simp [Blank], rfl, ⟨by simp, trivial⟩, fun h => absurd h hp.1⟩

theorem tailEdit_ite (c : Bool) {f : Bytes → Bytes} (h : ∀ s, TailEdit s (f s)) (s : Bytes) :
    TailEdit s (if c then f s else s) := by
  cases c
  · exact .refl s
  · exact h s

theorem TailEdit.noSpLF {s s' : Bytes} (h : TailEdit s s') (hs : NoSpLF s) : NoSpLF s' := by
  obtain ⟨pre, t, t', rfl, rfl, _, _, _, h1, h2⟩ := h
  exact (NoSpLF_append pre t').mpr ⟨((NoSpLF_append pre t).mp hs).1, h2, h1⟩

theorem TailEdit.spacesThenComment_eq {s s' : Bytes} (h : TailEdit s s') : spacesThenComment s' = spacesThenComment s := by
  obtain ⟨pre, t, t', rfl, rfl, ht, ht', _⟩ := h
  rw [spacesThenComment_append_nomark _ _ ht.noMark, spacesThenComment_append_nomark _ _ ht'.noMark]

theorem TailEdit.lineOK {s s' : Bytes} (h : TailEdit s s') (m : Nat) (hs : LineOK m s) : LineOK m s' := by
  obtain ⟨pre, t, t', rfl, rfl, ht, ht', _⟩ := h
  exact (LineOK_append_nomark m pre t' ht'.noMark).mpr ((LineOK_append_nomark m pre t ht.noMark).mp hs)

theorem contains_collapseLF (s : Bytes) (x : UInt8) : (collapseLF s).contains x = s.contains x :=
  Bool.eq_iff_iff.mpr (by simp [mem_collapseLF])

/-- a tail edit does not show after `collapseLF` and `subTrailing` -/
theorem TailEdit.subTrailing_collapseLF {s s' : Bytes} (h : TailEdit s s') :
    subTrailing (collapseLF s') = subTrailing (collapseLF s) := by
  obtain ⟨pre, t, t', rfl, rfl, ht, ht', hc, _⟩ := h
  obtain ⟨p, u, rfl, hp, hu, _⟩ := subTrailing_cases pre
  have hC : ∀ {w : Bytes}, Blank w → Blank (collapseLF w) := fun hw x hx => hw x ((mem_collapseLF _ x).mp hx)
  -- `collapseLF` splits after `p`, which does not end in a line feed
  rw [List.append_assoc, List.append_assoc, collapseLF_append p _ (fun hl => absurd hl hp.2),
    collapseLF_append p _ (fun hl => absurd hl hp.2)]
  refine subTrailing_congr _ _ _ (hC (hu.append ht)) (hC (hu.append ht')) ?_
  rw [contains_collapseLF, contains_collapseLF, List.contains_append, List.contains_append, hc]

/-- a tail edit only touches what follows the last byte that is neither a space nor a line feed -/
theorem TailEdit.keep {s' X T : Bytes} (h : TailEdit (X ++ T) s') (c : UInt8) (hX : X.getLast? = some c)
    (h32 : c ≠ 32) (h10 : c ≠ 10) : ∃ T', s' = X ++ T' := by
  obtain ⟨pre, t, t', e, rfl, ht, _⟩ := h
  rcases List.append_eq_append_iff.mp e with ⟨a, rfl, _⟩ | ⟨a, rfl, rfl⟩
  · exact ⟨a ++ t', List.append_assoc _ _ _⟩
  · cases a with
    | nil => exact ⟨t', by simp⟩
    | cons x a =>
      have hc : c ∈ x :: a := List.mem_of_getLast? (by simpa [List.getLast?_append, List.getLast?_cons] using hX)
      rcases ht c (List.mem_append_left _ hc) with h | h
      · exact absurd h h32
      · exact absurd h h10

end Pico.Ast
