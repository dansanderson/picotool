import PicoVerif.Model.AstWriters
import PicoVerif.Lemmas.PegCover
import PicoVerif.Lemmas.Blind
/-! Lemmas for C09: the indent walk visits the leaves; `assemble` succeeds exactly on a chain of walked tokens and then
writes `render`; what a chain says about the significant tokens, and the walk of a parser result (`astWrite_ok_iff`); the
non-white-space bytes and the presence of a line break as measures that the formatter's regex pipeline does not change
(Lemmas/Blind). -/
namespace Pico.Ast
open Pico.Lex Pico.Peg

mutual
theorem walkInd_fst (toks : Array Tok) : ∀ (t : Tree) (d : Nat), (walkInd toks t d).map (·.1) = t.leaves
  | .leaf i, d => by simp [walkInd, Tree.leaves]
  | .node k s e cs, d => by
    rw [walkInd, Tree.leaves]
    exact walkIndL_fst toks cs _
theorem walkIndL_fst (toks : Array Tok) : ∀ (cs : List Tree) (ds : List Nat),
    (walkIndL toks cs ds).map (·.1) = leavesL cs
  | [], _ => by simp [walkIndL, leavesL]
  | t :: rest, ds => by
    rw [walkIndL, leavesL, List.map_append, walkInd_fst toks t _, walkIndL_fst toks rest _]
end

/-- the text a successful `assemble` appends to its accumulator: the rendered runs interleaved with the codes of the
walked tokens, then the rendering of the final run -/
def render (fmt : RunFmt) (toks : Array Tok) : List (Nat × Nat) → Nat → Bytes
  | [], pos => fmt 0 (pos == 0) true (runText toks pos toks.size)
  | (i, d) :: rest, pos =>
    fmt d (pos == 0) false (runText toks pos i) ++ (toks.getD i default).code ++ render fmt toks rest (i + 1)

/-- the checks `assemble` makes on the walked token indices when entered at `pos`: only trivia lies between one walked
token and the next, and after the last one -/
def Chain (toks : Array Tok) : List Nat → Nat → Prop
  | [], pos => toks.size ≤ skipTrivia toks pos
  | i :: rest, pos => pos ≤ i ∧ i < toks.size ∧ allTrivia toks pos i = true ∧ Chain toks rest (i + 1)

theorem assemble_ok_iff (fmt : RunFmt) (toks : Array Tok) (walk : List (Nat × Nat)) (pos : Nat) (acc out : Bytes) :
    assemble fmt toks walk pos acc = .ok out ↔
      Chain toks (walk.map (·.1)) pos ∧ out = acc ++ render fmt toks walk pos := by
  fun_induction assemble fmt toks walk pos acc with
  | case1 pos acc j hlt => exact ⟨nofun, fun h => absurd hlt (Nat.not_lt.2 h.1)⟩
  | case2 pos acc _ hge => exact ⟨fun h => ⟨Nat.le_of_not_lt hge, (Except.ok.inj h).symm⟩, fun h => h.2 ▸ rfl⟩
  | case3 i d rest pos acc hc =>
    refine ⟨nofun, fun ⟨⟨h1, h2, h3, _⟩, _⟩ => ?_⟩
    rcases hc with hc | hc | hc
    · exact absurd hc (Nat.not_lt.2 h1)
    · exact absurd h2 (Nat.not_lt.2 hc)
    · rw [h3] at hc; cases hc
  | case4 i d rest pos acc hc ih =>
    simp only [not_or, Nat.not_lt, ge_iff_le, Nat.not_le, Bool.not_eq_true, Bool.not_eq_false'] at hc
    rw [ih, List.append_assoc, List.append_assoc, List.map_cons, Chain, render, List.append_assoc]
    exact ⟨fun h => ⟨⟨hc.1, hc.2.1, hc.2.2, h.1⟩, h.2⟩, fun h => ⟨h.1.2.2.2, h.2⟩⟩

/-- where the run in front of the `k`-th walked token starts when the walk is entered at `pos` -/
def runStartFrom (walk : List (Nat × Nat)) (pos k : Nat) : Nat :=
  if k = 0 then pos else (walk.getD (k - 1) (0, 0)).1 + 1

theorem runStartFrom_succ (x : Nat × Nat) (rest : List (Nat × Nat)) (pos k : Nat) :
    runStartFrom (x :: rest) pos (k + 1) = runStartFrom rest (x.1 + 1) k := by
  cases k <;> rfl

theorem render_nth (fmt : RunFmt) (toks : Array Tok) (walk : List (Nat × Nat)) (pos k i d : Nat)
    (hk : walk[k]? = some (i, d)) :
    ∃ a b, render fmt toks walk pos = a ++ fmt d (runStartFrom walk pos k == 0) false
      (runText toks (runStartFrom walk pos k) i) ++ (toks.getD i default).code ++ b := by
  induction walk generalizing pos k with
  | nil => simp at hk
  | cons x rest ih =>
    cases k with
    | zero =>
      simp only [List.getElem?_cons_zero, Option.some.injEq] at hk
      subst hk
      exact ⟨[], render fmt toks rest (i + 1), rfl⟩
    | succ k =>
      obtain ⟨a, b, hab⟩ := ih (x.1 + 1) k hk
      rw [runStartFrom_succ]
      exact ⟨fmt x.2 (pos == 0) false (runText toks pos x.1) ++ (toks.getD x.1 default).code ++ a, b,
        by rw [render, hab]; simp only [List.append_assoc]⟩

theorem allTrivia_iff (toks : Array Tok) (a b : Nat) :
    allTrivia toks a b = true ↔ ∀ k, a ≤ k → k < b → (h : k < toks.size) → toks[k].trivia = true := by
  rw [allTrivia, Array.all_eq_true_iff_forall_mem]
  simp only [Array.mem_extract_iff_getElem]
  constructor
  · intro h k h1 h2 hk
    exact h _ ⟨k - a, by omega, by simp [show a + (k - a) = k by omega]⟩
  · rintro h x ⟨k, hm, rfl⟩
    exact h (a + k) (by omega) (by omega) (by omega)

theorem sigIdx_trivia_false (toks : Array Tok) (a b i : Nat) (h : i ∈ sigIdx toks a b) :
    (toks.getD i default).trivia = false := by
  obtain ⟨_, _, h3⟩ := (mem_sigIdx toks a b i).1 h
  obtain ⟨hk, ht⟩ := (sig_iff toks i).1 h3
  rw [← Array.getElem_eq_getD (h := hk) default]; exact ht

theorem sigIdx_eq_nil_iff_allTrivia (toks : Array Tok) (a b : Nat) :
    sigIdx toks a b = [] ↔ allTrivia toks a b = true := by
  rw [sigIdx_eq_nil_iff, allTrivia_iff]
  constructor
  · intro h k h1 h2 hk
    simpa [sig, hk] using h k h1 h2
  · intro h k h1 h2
    refine Bool.eq_false_iff.mpr fun hs => ?_
    obtain ⟨hk, ht⟩ := (sig_iff toks k).1 hs
    rw [h k h1 h2 hk] at ht; cases ht

theorem Chain.filter_sig {toks : Array Tok} : ∀ {is : List Nat} {pos : Nat}, Chain toks is pos →
    is.filter (fun i => !(toks.getD i default).trivia) = sigIdx toks pos toks.size
  | [], pos, h => (sigIdx_eq_nil_of_skip toks pos _ h).symm
  | i :: rest, pos, ⟨h1, h2, h3, h4⟩ => by
    rw [← sigIdx_append toks h1 (Nat.le_of_lt h2), (sigIdx_eq_nil_iff_allTrivia toks pos i).2 h3,
      ← sigIdx_append toks (Nat.le_succ i) h2, ← Chain.filter_sig h4, sigIdx_one, List.filter_cons,
      ← Array.getElem_eq_getD (h := h2) default, sig, dif_pos h2]
    split <;> rfl

theorem Chain.mem_of_sig {toks : Array Tok} {is : List Nat} {pos j : Nat} (hc : Chain toks is pos) (hpos : pos ≤ j)
    (hs : sig toks j = true) : j ∈ is := by
  have hm : j ∈ sigIdx toks pos toks.size := (mem_sigIdx ..).2 ⟨hpos, ((sig_iff toks j).1 hs).1, hs⟩
  rw [← hc.filter_sig] at hm
  exact (List.mem_filter.1 hm).1

/-- when only trivia follows `p`, the significant tokens of `[pos, p)` form a chain: `skipTrivia` finds each of them -/
theorem Chain.of_sigIdx {toks : Array Tok} {p : Nat} (hend : toks.size ≤ skipTrivia toks p) (pos : Nat) :
    Chain toks (sigIdx toks pos p) pos := by
  rcases Nat.lt_or_ge (skipTrivia toks pos) toks.size with hj | hj
  · -- the next significant token stands before `p`, since none stands at `p` or later
    have hjp : skipTrivia toks pos < p := Nat.lt_of_not_le fun h => by
      have := skipTrivia_le_of_sig toks p _ (skipTrivia_sig toks pos hj) h
      omega
    have hge := skipTrivia_ge toks pos
    rw [← sigIdx_append toks (Nat.le_succ_of_le hge) hjp, sigIdx_tok toks pos hj]
    exact ⟨hge, hj, (sigIdx_eq_nil_iff_allTrivia toks pos _).1 (sigIdx_skip toks pos), Chain.of_sigIdx hend _⟩
  · rw [sigIdx_eq_nil_of_skip toks pos p hj]
    exact hj
termination_by p - pos
decreasing_by omega

theorem Chain.sigIdx_iff {toks : Array Tok} {pos p : Nat} (hpp : pos ≤ p) :
    Chain toks (sigIdx toks pos p) pos ↔ toks.size ≤ skipTrivia toks p := by
  refine ⟨fun hc => ?_, fun h => Chain.of_sigIdx h pos⟩
  rcases Nat.lt_or_ge (skipTrivia toks p) toks.size with hj | hj
  · have hge := skipTrivia_ge toks p
    have := ((mem_sigIdx ..).1 (hc.mem_of_sig (Nat.le_trans hpp hge) (skipTrivia_sig toks p hj))).2.1
    omega
  · exact hj

def walkEnd (is : List Nat) (pos : Nat) : Nat := (is.getLast?.map (· + 1)).getD pos

theorem walkEnd_cons (i : Nat) (rest : List Nat) (pos : Nat) : walkEnd (i :: rest) pos = walkEnd rest (i + 1) := by
  rw [walkEnd, walkEnd, List.getLast?_cons]
  cases rest.getLast? <;> rfl

theorem Chain.end_trivia {toks : Array Tok} : ∀ {is : List Nat} {pos : Nat}, Chain toks is pos →
    pos ≤ walkEnd is pos ∧ toks.size ≤ skipTrivia toks (walkEnd is pos)
  | [], _, h => ⟨Nat.le_refl _, h⟩
  | i :: rest, pos, ⟨h1, _, _, h4⟩ => by
    have ih := Chain.end_trivia h4
    rw [walkEnd_cons]
    exact ⟨by omega, ih.2⟩

theorem flatMap_walkInd_fst (toks : Array Tok) (ts : List Tree) (d : Nat) :
    (ts.flatMap fun t => walkInd toks t d).map (·.1) = leavesL ts := by
  induction ts with
  | nil => simp [leavesL]
  | cons t rest ih =>
    rw [List.flatMap_cons, List.map_append, walkInd_fst, ih, leavesL]

theorem walk_of_run {toks : Array Tok} {fuel : Nat} {ts : List Tree} {st' : PSt}
    (hrun : Peg.run Gram.gram toks fuel (.nt Gram.nChunk) { pos := 0, maxPos := none } = .ok (some (ts, st'))) :
    (ts.flatMap fun t => walkInd toks t 0).map (·.1) = sigIdx toks 0 st'.pos :=
  (flatMap_walkInd_fst toks ts 0).trans (Parses.of_run hrun).cover.2

theorem astWrite_ok_iff (fmt : RunFmt) (toks : List Tok) (out : Bytes) :
    astWrite fmt toks = .ok out ↔ ∃ ts st',
      Peg.run Gram.gram toks.toArray (50 * toks.toArray.size + 200) (.nt Gram.nChunk) { pos := 0, maxPos := none } = .ok (some (ts, st')) ∧
      toks.toArray.size ≤ skipTrivia toks.toArray st'.pos ∧
      out = render fmt toks.toArray (ts.flatMap fun t => walkInd toks.toArray t 0) 0 := by
  simp only [astWrite]
  split
  · rename_i h; rw [h]; simp
  · rename_i h; rw [h]; simp
  · rename_i ts st' h
    rw [h, assemble_ok_iff, walk_of_run h, Chain.sigIdx_iff (Nat.zero_le _), List.nil_append]
    exact ⟨fun ha => ⟨ts, st', rfl, ha⟩, fun ⟨_, _, he, ha⟩ => by cases he; exact ha⟩

/-- not a white-space byte -/
def nws (b : UInt8) : Bool := !(b == 32 || b == 9 || b == 13 || b == 10)
/-- the non-white-space bytes of a string -/
def strip (s : Bytes) : Bytes := s.filter nws

theorem strip_nil : strip [] = [] := rfl
theorem strip_append (a b : Bytes) : strip (a ++ b) = strip a ++ strip b := List.filter_append ..

theorem blindBrk_strip : BlindBrk strip (· ++ ·) :=
  ⟨⟨strip_append, List.append_assoc, fun _ => rfl, rfl, rfl⟩, rfl, rfl⟩

theorem blind_lf : Blind (fun s => s.contains 10) (· || ·) :=
  ⟨fun _ _ => List.contains_append, Bool.or_assoc, fun _ => rfl, rfl, rfl⟩

theorem blindBrk_lineBreak : BlindBrk (fun s => s.contains 10 || s.contains 13) (· || ·) :=
  ⟨⟨fun a b => by
      show ((a ++ b).contains 10 || (a ++ b).contains 13) = _
      rw [List.contains_append, List.contains_append]
      ac_rfl,
    Bool.or_assoc, fun _ => rfl, rfl, rfl⟩, rfl, rfl⟩

/-- the one stage that is not blind to "contains a line feed": afterwards a line feed stands where a line break stood -/
theorem contains_subCR (s : Bytes) : (subCR s).contains 10 = (s.contains 10 || s.contains 13) := by
  induction s with
  | nil => rfl
  | cons b s ih =>
    rw [subCR_cons, List.contains_cons, List.contains_cons, List.contains_cons, ih]
    by_cases h : b = 13
    · subst h; cases s.contains 10 <;> cases s.contains 13 <;> rfl
    · have : (13 == b) = false := by simpa using fun h' => h h'.symm
      rw [if_neg h, this, Bool.false_or, Bool.or_assoc]

end Pico.Ast
