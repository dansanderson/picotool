import PicoVerif.Lemmas.PegParses
namespace Pico.Peg
open Pico.Lex

def FenceBounded (m : Option Nat) (ts : List Tree) : Prop := ∀ b, m = some b → ∀ i ∈ leavesL ts, i < b

theorem FenceBounded.nil (m) : FenceBounded m [] := by intro b _ i hi; simp [leavesL] at hi
theorem FenceBounded.append {m a c} (ha : FenceBounded m a) (hc : FenceBounded m c) : FenceBounded m (a ++ c) := by
  intro b hb i hi; rw [leavesL_append] at hi
  rcases List.mem_append.mp hi with h | h
  · exact ha b hb i h
  · exact hc b hb i h
theorem FenceBounded.reparent {m a c} (ha : FenceBounded m a) (hc : FenceBounded m c) : FenceBounded m (reparent a c) := by
  intro b hb i hi; rw [leavesL_reparent, ← leavesL_append] at hi
  exact ha.append hc b hb i hi

def FenceInv (st : PSt) (ts : List Tree) (st' : PSt) : Prop := st'.maxPos = st.maxPos ∧ FenceBounded st.maxPos ts

theorem FenceInv.nil (st : PSt) : FenceInv st [] st := ⟨rfl, FenceBounded.nil _⟩
/-- the invariant of a run continued from a state with the same limit -/
theorem FenceInv.rebase {s1 s2 s3 : PSt} {ts : List Tree} (h : s2.maxPos = s1.maxPos) (h2 : FenceInv s2 ts s3) : FenceInv s1 ts s3 :=
  ⟨h2.1.trans h, h ▸ h2.2⟩
theorem FenceInv.trans {s1 s2 s3 : PSt} {t1 t2 : List Tree} (h1 : FenceInv s1 t1 s2) (h2 : FenceInv s2 t2 s3) : FenceInv s1 (t1 ++ t2) s3 :=
  ⟨(h2.rebase h1.1).1, h1.2.append (h2.rebase h1.1).2⟩

/-- a successful run leaves the limit as it found it and takes no token at or beyond it; so does the loop, if its
accumulator holds no such token -/
theorem Parses.fenceInv {gram : Nat → G} {toks : Array Tok} {j st ts st'} (h : Parses gram toks j st ts st') :
    match j with
    | .run _ => FenceInv st ts st'
    | .loop _ acc => FenceBounded st.maxPos acc → FenceInv st ts st' := by
  induction h with
  | eps | starNil | prevTokIs | notAhead => exact FenceInv.nil _
  | @tok _ st _ _ hf =>
    refine ⟨rfl, fun b hb i hi => ?_⟩
    rw [leavesL_leaf, List.mem_singleton] at hi
    simpa [fenceOk, hb, hi] using hf
  | seq _ _ ih1 ih2 | starCons _ _ _ ih1 ih2 => exact ih1.trans ih2
  | altL _ ih | altR _ ih | starOne _ ih | nt _ ih | hard _ ih | filterTop _ _ ih => exact ih
  | node _ ih => exact ⟨ih.1, fun b hb i hi => ih.2 b hb i (leavesL_node .. ▸ hi)⟩
  | chain _ _ ih1 ih2 => exact (ih2 (ih1.1 ▸ ih1.2)).rebase ih1.1
  | @fence _ st ts st1 _ ih =>
    refine ⟨rfl, fun b hb i hi => ?_⟩
    have := ih.2 _ rfl i hi
    simp only [fenceLim, hb] at this
    omega
  | loopStop => exact fun h => ⟨rfl, h⟩
  | loopStep _ _ ih1 ih2 => exact fun hacc => (ih2 (ih1.1 ▸ hacc.reparent ih1.2)).rebase ih1.1

theorem Parses.fence_before_newline {gram : Nat → G} {toks : Array Tok} {g st ts st'}
    (h : Parses gram toks (.run (.fence g)) st ts st') : ∀ i ∈ leavesL ts, i < nextNewline toks st.pos := by
  cases h with
  | fence hg =>
    intro i hi
    have := hg.fenceInv.2 _ rfl i hi
    simp only [fenceLim] at this
    split at this <;> omega

end Pico.Peg
