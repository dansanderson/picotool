import PicoVerif.Model.Include
/-! Lemmas for C20: the result of `processIncludes` line by line, `withNewline`, `linesForTab` against `splitTabs`. -/
namespace Pico.Inc
open Pico.Path

theorem withNewline_last (l : Bytes) : (withNewline l).getLast? = some 10 := by
  unfold withNewline
  split
  · assumption
  · simp

theorem processIncludes_cons_fst (fs : FS) (root dir : P) (l : Bytes) (rest : List Bytes) :
    (processIncludes fs root dir (l :: rest)).1 =
      (do let ls ← (includeLine fs root dir l).1; let ls2 ← (processIncludes fs root dir rest).1; pure (ls ++ ls2)) := by
  rw [processIncludes]
  split
  · rename_i heq; rw [heq]; rfl
  · rename_i heq
    rw [heq]
    split <;> rename_i heq2 <;> rw [heq2] <;> rfl

theorem processIncludes_cons_ok {fs : FS} {root dir : P} {l : Bytes} {rest out : List Bytes} :
    (processIncludes fs root dir (l :: rest)).1 = .ok out ↔
      ∃ ls ls2, (includeLine fs root dir l).1 = .ok ls ∧ (processIncludes fs root dir rest).1 = .ok ls2 ∧ out = ls ++ ls2 := by
  rw [processIncludes_cons_fst]
  cases (includeLine fs root dir l).1 with
  | error e => exact ⟨nofun, nofun⟩
  | ok ls =>
    cases (processIncludes fs root dir rest).1 with
    | error e => exact ⟨nofun, nofun⟩
    | ok ls2 =>
      refine ⟨fun h => ⟨ls, ls2, rfl, rfl, (Except.ok.inj h).symm⟩, ?_⟩
      rintro ⟨_, _, ⟨⟩, ⟨⟩, rfl⟩
      rfl

theorem linesForTab_past (n : Nat) (ls : List Bytes) (cur : Nat) (h : n < cur) : linesForTab (some n) ls cur = [] := by
  fun_induction linesForTab (some n) ls cur with
  | case1 => rfl
  | case2 l rest cur _ ih => simp [ih (by omega)]
  | case3 l rest cur _ ih => simp [ih h, show n ≠ cur by omega]

end Pico.Inc

namespace Pico.C20
open Pico.Inc

/-- the code lines split into editor tabs at the `-->8` lines (which belong to no tab) -/
def splitTabs : List Bytes → List Bytes → List (List Bytes)
  | [], cur => [cur.reverse]
  | l :: rest, cur => if isTabLine l then cur.reverse :: splitTabs rest [] else splitTabs rest (l :: cur)

end Pico.C20

namespace Pico.Inc
open Pico.C20

/-- tab `cur + d`, read from tab `cur` on, of which the lines `acc` have been seen already -/
theorem linesForTab_from (ls : List Bytes) : ∀ cur acc d,
    (if d = 0 then acc.reverse else []) ++ linesForTab (some (cur + d)) ls cur = (splitTabs ls acc).getD d [] := by
  induction ls with
  | nil => intro cur acc d; cases d <;> simp [linesForTab, splitTabs]
  | cons l rest ih =>
    intro cur acc d
    rw [linesForTab, splitTabs]
    cases ht : isTabLine l with
    | true =>
      cases d with
      | zero => simp [linesForTab_past cur rest (cur + 1) (Nat.lt_succ_self _)]
      | succ d =>
        have := ih (cur + 1) [] d
        rw [Nat.add_right_comm, Nat.add_assoc] at this
        simpa using this
    | false =>
      simp only [Bool.false_eq_true, if_false]
      rw [← ih cur (l :: acc) d]
      cases d <;> simp

end Pico.Inc
