import PicoVerif.Model.Include
/-! Lemmas for C12: `splitSlash`/`comps` over concatenation, `normComps` composition, the accesses of
`includeLine`, the probes and the result of `locateRequire`. -/
namespace Pico.Path

theorem splitSlash_ne_nil (p : P) : splitSlash p ≠ [] := by
  fun_cases splitSlash p <;> simp

theorem splitSlash_append_slash (a b : P) : splitSlash (a ++ '/' :: b) = splitSlash a ++ splitSlash b := by
  induction a with
  | nil => simp [splitSlash]
  | cons c a' ih =>
    rw [List.cons_append, splitSlash, splitSlash, ih]
    split
    · simp
    · cases h : splitSlash a' with
      | nil => exact absurd h (splitSlash_ne_nil a')
      | cons x t => simp

theorem comps_append_slash (a b : P) : comps (a ++ '/' :: b) = comps a ++ comps b := by
  simp [comps, splitSlash_append_slash]

theorem comps_nil : comps [] = [] := by simp [comps, splitSlash]

theorem comps_rstripSlash (root : P) : comps (rstripSlash root) = comps root := by
  suffices h : ∀ r : P, comps ((r.dropWhile (· == '/')).reverse) = comps r.reverse by
    simpa [rstripSlash] using h root.reverse
  intro r
  induction r with
  | nil => rfl
  | cons c r' ih =>
    rw [List.dropWhile_cons]
    split
    · rename_i hc
      have : c = '/' := by simpa using hc
      subst this
      rw [ih, List.reverse_cons, comps_append_slash, comps_nil, List.append_nil]
    · rfl

theorem normComps_append (abs : Bool) (xs ys : List P) : ∀ acc,
    normComps abs (xs ++ ys) acc = normComps abs ys (normComps abs xs acc).reverse := by
  induction xs with
  | nil => intro acc; simp [normComps]
  | cons c rest ih =>
    intro acc
    rw [List.cons_append, normComps, normComps]
    split
    · exact ih _
    · split
      · exact ih _
      · exact ih _

theorem normComps_clean (abs : Bool) (cs : List P) (h : ∀ c ∈ cs, c ≠ ['.', '.']) : ∀ acc,
    normComps abs cs acc = acc.reverse ++ cs.filter (fun c => c ≠ [] ∧ c ≠ ['.']) := by
  induction cs with
  | nil => intro acc; simp [normComps]
  | cons c rest ih =>
    intro acc
    have hc : c ≠ ['.', '.'] := h c (by simp)
    have ih' := ih (fun x hx => h x (by simp [hx]))
    rw [normComps]
    split
    · rename_i h1
      rw [ih', List.filter_cons_of_neg]
      simpa [Classical.or_iff_not_imp_left] using h1
    · rename_i h1
      rw [if_pos (Or.inl hc), ih', List.filter_cons_of_pos]
      · simp
      · simpa [not_or] using h1

end Pico.Path

namespace Pico.C12
open Pico.Inc Pico.Path

def accessPath : Access → P
  | .isfile p => p
  | .open_ p => p

end Pico.C12

namespace Pico.Inc
open Pico.Path Pico.C12

/-- whatever branch `includeLine` takes, it touches only the normalised target -/
theorem includeLine_accesses (fs : FS) (root dir : P) (line : Bytes) :
    ∀ a ∈ (includeLine fs root dir line).2, isWithin (accessPath a) root = true := by
  unfold includeLine
  split
  · simp
  · rename_i m _
    generalize normpath (join dir (bytesToPath (m.path ++ m.ext))) = full
    generalize ".lua".toUTF8.toList = lua
    cases hw : isWithin full root
    · simp [hw]
    · cases hf : fs.isFile full
      · simp [hw, hf, accessPath]
      · by_cases he : m.ext = lua
        · simp [hw, hf, he, accessPath]
        · cases hc : fs.cartCode full <;> simp [hw, hf, he, hc, accessPath]

theorem locateRequire_go (isFile : P → Bool) (cands : List P) : ∀ acc,
    ∃ k, (locateRequire.go isFile cands acc).2 = acc ++ (cands.take k).map Access.isfile ∧
      ∀ c, (locateRequire.go isFile cands acc).1 = some c → c ∈ cands.take k := by
  induction cands with
  | nil => intro acc; exact ⟨0, by simp [locateRequire.go], by simp [locateRequire.go]⟩
  | cons c rest ih =>
    intro acc
    rw [locateRequire.go]
    split
    · exact ⟨1, by simp, by simp⟩
    · obtain ⟨k, hk, hm⟩ := ih (acc ++ [.isfile c])
      exact ⟨k + 1, by rw [hk]; simp, fun c' h => List.mem_cons_of_mem _ (hm c' h)⟩

theorem locateRequire_mem (isFile : P → Bool) (p dir lp c : P)
    (h : (locateRequire isFile p dir lp).1 = some c) : c ∈ requireCandidates p dir lp := by
  obtain ⟨k, -, hm⟩ := locateRequire_go isFile (requireCandidates p dir lp) []
  exact List.mem_of_mem_take (hm c h)

end Pico.Inc
