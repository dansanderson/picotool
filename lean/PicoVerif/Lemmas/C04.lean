import PicoVerif.Lemmas.C16
import PicoVerif.Props.C05
/-! C04: the hidden bytes are a prefix of what the written rows decode to (`stego_prefix`); the code area is written
exactly when the chosen form fits (`getBytes_ok_iff`) and reads back in either form (`getCode_raw`, `getCode_compressed`). -/
namespace Pico.C04
open Pico.P8Png Pico.P8File Pico.Compress Pico.C16L

/-- a label image: rows of `w` RGBA pixels, enough pixels for the 0x8001 hidden bytes -/
structure WFLabel (lbl : List (List UInt8)) (w : Nat) : Prop where
  rows : ∀ r ∈ lbl, r.length = 4 * w
  room : 0x8001 ≤ w * lbl.length
  wpos : 0 < w

structure WFRegions (c : Cart) : Prop where
  gfx : c.gfx.length = 0x2000
  gff : c.gff.length = 0x100
  map : c.map.length = 0x1000
  sfx : c.sfx.length = 0x1100
  music : c.music.length = 0x100
  version : c.version < 256

theorem encRow_length (row vs : List UInt8) : (encRow row vs).length = row.length := by
  fun_induction encRow row vs with
  | case1 r g b a rest v vs ih => simp [encPixel, ih]
  | case2 row _ _ => rfl

theorem short_row {row : List UInt8} (h : ∀ r g b a rest, row = r :: g :: b :: a :: rest → False) :
    decRow row = [] ∧ row.length / 4 = 0 := by
  match row, h with
  | [], _ | [_], _ | [_, _], _ | [_, _, _], _ => simp [decRow]
  | r :: g :: b :: a :: rest, h => exact (h r g b a rest rfl).elim

theorem decRow_length (row : List UInt8) : (decRow row).length = row.length / 4 := by
  fun_induction decRow row with
  | case1 r g b a rest ih => simp [ih]; omega
  | case2 row h => simp [short_row h]

theorem encRow_shr (row vs : List UInt8) (j : Nat) :
    (encRow row vs).getD j 0 >>> (2 : UInt8) = row.getD j 0 >>> (2 : UInt8) := by
  fun_induction encRow row vs generalizing j with
  | case1 r g b a rest v vs ih =>
    match j with
    | 0 => exact (enc_chan r _).2
    | 1 => exact (enc_chan g _).2
    | 2 => exact (enc_chan b _).2
    | 3 => exact (enc_chan a _).2
    | j + 4 => exact ih j
  | case2 row _ _ => rfl

theorem decRow_encRow (row vs : List UInt8) :
    decRow (encRow row vs) = vs.take (row.length / 4) ++ (decRow row).drop vs.length := by
  fun_induction encRow row vs with
  | case1 r g b a rest v vs ih =>
    simp only [encPixel, List.cons_append, List.nil_append, decRow, dec_enc_pixel, ih, List.length_cons,
      List.drop_succ_cons]
    rw [show (rest.length + 1 + 1 + 1 + 1) / 4 = rest.length / 4 + 1 by omega, List.take_succ_cons, List.cons_append]
  | case2 row vs h =>
    cases vs with
    | nil => simp
    | cons v vs => simp [short_row (row := row) (fun r g b a rest hr => h r g b a rest v vs hr rfl)]

theorem encRows_length (lbl : List (List UInt8)) (pico : Bytes) :
    (encRows lbl pico).length = lbl.length := by
  induction lbl generalizing pico with
  | nil => rfl
  | cons row rest ih => simp [encRows, ih]

theorem encRows_getD (lbl : List (List UInt8)) (pico : Bytes) (i : Nat) (hi : i < lbl.length) :
    ∃ vs, (encRows lbl pico).getD i [] = encRow (lbl.getD i []) vs := by
  induction lbl generalizing pico i with
  | nil => simp at hi
  | cons row rest ih =>
    cases i with
    | zero => exact ⟨pico, by simp [encRows]⟩
    | succ i =>
      obtain ⟨vs, hvs⟩ := ih (pico.drop (row.length / 4)) i (by simpa using hi)
      exact ⟨vs, by simpa [encRows] using hvs⟩

theorem decRows_cons (row : List UInt8) (rows : List (List UInt8)) :
    decRows (row :: rows) = decRow row ++ decRows rows := by
  simp [decRows]

theorem stego_prefix (lbl : List (List UInt8)) (w : Nat) (pico : Bytes)
    (h : ∀ r ∈ lbl, r.length = 4 * w) (hp : pico.length ≤ w * lbl.length) :
    pico <+: decRows (encRows lbl pico) := by
  induction lbl generalizing pico with
  | nil =>
    have : pico = [] := List.length_eq_zero_iff.mp (by simpa using hp)
    subst this; exact List.nil_prefix
  | cons row rest ih =>
    have hrow : row.length / 4 = w := by have := h row (by simp); omega
    rw [List.length_cons, Nat.mul_succ] at hp
    obtain ⟨t, ht⟩ := ih (pico.drop w) (fun r hr => h r (by simp [hr])) (by rw [List.length_drop]; omega)
    rw [encRows, decRows_cons, decRow_encRow, hrow, ← ht]
    by_cases hle : pico.length ≤ w
    · rw [List.take_of_length_le hle, List.append_assoc]
      exact List.prefix_append _ _
    · rw [List.drop_eq_nil_of_le (by rw [decRow_length, hrow]; omega), List.append_nil, ← List.append_assoc,
        List.take_append_drop]
      exact List.prefix_append _ _

theorem header_length (t : Bytes) : (header t).length = 8 := rfl

theorem rawOk_iff (code : Bytes) :
    rawOk code = true ↔ (0 : UInt8) ∉ code ∧ code ≠ [0x3a, 0x63, 0x3a] := by
  simp [rawOk]

theorem useCompressed_iff (code : Bytes) (v : Nat) :
    useCompressed code v = true ↔
      v ≠ 0 ∧ ((compress code).length + 8 < code.length ∨ ¬ ((0 : UInt8) ∉ code ∧ code ≠ [0x3a, 0x63, 0x3a])) := by
  rw [← rawOk_iff]
  simp [useCompressed]

/-- code that is stored raw and is not refused for a NUL byte in a version 0 cart: the raw form can represent it -/
theorem raw_of_not_useCompressed (code : Bytes) (v : Nat) (hc : ¬ useCompressed code v = true)
    (h0 : ¬ (v = 0 ∧ (0 : UInt8) ∈ code)) : (0 : UInt8) ∉ code ∧ (v = 0 ∨ code ≠ [0x3a, 0x63, 0x3a]) := by
  by_cases hv : v = 0
  · exact ⟨fun hm => h0 ⟨hv, hm⟩, Or.inl hv⟩
  · exact (Decidable.not_not.mp fun hr => hc ((useCompressed_iff code v).mpr ⟨hv, Or.inr hr⟩)).imp_right Or.inr

theorem getBytes_compressed (code : Bytes) (v : Nat) (hc : useCompressed code v = true)
    (h1 : code.length < 65536) (h2 : 8 + (compress code).length ≤ codeAreaLen) :
    getBytesFromCode code v = .ok (header code ++ compress code ++
      List.replicate (codeAreaLen - (8 + (compress code).length)) 0) := by
  unfold getBytesFromCode
  rw [if_neg (fun h => ((useCompressed_iff code v).mp hc).1 h.1), if_pos hc]
  simp only [List.length_append, header_length]
  rw [if_neg (by omega), if_neg (by omega)]

theorem getBytes_raw (code : Bytes) (v : Nat) (hc : ¬ useCompressed code v = true)
    (h0 : ¬ (v = 0 ∧ (0 : UInt8) ∈ code)) (h1 : code.length ≤ codeAreaLen) :
    getBytesFromCode code v = .ok (code ++ List.replicate (codeAreaLen - code.length) 0) := by
  unfold getBytesFromCode
  rw [← List.contains_iff_mem] at h0
  rw [if_neg h0, if_neg hc, if_neg (by omega)]

/-- the code area is written exactly when the code fits in the chosen form: each test of `getBytesFromCode` that
raises contributes its negation -/
theorem getBytes_ok_iff (code : Bytes) (v : Nat) :
    (∃ cb, getBytesFromCode code v = .ok cb) ↔
      (if useCompressed code v = true then code.length < 65536 ∧ 8 + (compress code).length ≤ codeAreaLen
       else ¬ (v = 0 ∧ (0 : UInt8) ∈ code) ∧ code.length ≤ codeAreaLen) := by
  have guard {p : Prop} [Decidable p] {e : Err} {x : Except Err Bytes} :
      (∃ cb, (if p then .error e else x) = .ok cb) ↔ ¬ p ∧ ∃ cb, x = .ok cb := by
    by_cases hp : p <;> simp [hp]
  have ok {cb : Bytes} : (∃ x, (Except.ok cb : Except Err Bytes) = .ok x) ↔ True := iff_true_intro ⟨_, rfl⟩
  unfold getBytesFromCode
  simp only [List.length_append, header_length, List.contains_iff_mem, guard]
  split
  · next hc =>
    simp only [guard, ok, and_true, Nat.not_lt]
    exact ⟨fun h => ⟨by omega, by omega⟩,
      fun h => ⟨fun h0 => ((useCompressed_iff code v).mp hc).1 h0.1, by omega, by omega⟩⟩
  · simp only [guard, ok, and_true, Nat.not_lt, gt_iff_lt]

theorem toPixels_ok_iff (lbl : List (List UInt8)) (c : Cart) :
    (∃ rows, toPixels lbl c = .ok rows) ↔ (∃ cb, getBytesFromCode c.code c.version = .ok cb) ∧ c.version < 256 := by
  unfold toPixels
  cases getBytesFromCode c.code c.version with
  | error e => simp [bind, Except.bind]
  | ok cb =>
    by_cases hv : c.version > 255
    · simp [bind, Except.bind, hv]; omega
    · simp [bind, Except.bind, pure, Except.pure, hv]; omega

theorem raw_idxOf (code : Bytes) (k : Nat) (hnul : (0 : UInt8) ∉ code) :
    (code ++ List.replicate k (0 : UInt8)).idxOf? 0 = if 0 < k then some code.length else none := by
  have h0 : code.idxOf? 0 = none := List.idxOf?_eq_none_iff.mpr hnul
  simp only [List.idxOf?] at h0 ⊢
  simp only [List.findIdx?_append, h0, List.findIdx?_replicate]
  by_cases hk : 0 < k <;> simp [hk]

/-- a text beginning with the compressed header has its first NUL at 3, the padded area at `code.length` (`raw_idxOf`):
such a code would be the bare `:c:` -/
theorem raw_take4 (code : Bytes) (k : Nat) (hnul : (0 : UInt8) ∉ code) (hnc : code ≠ [0x3a, 0x63, 0x3a]) :
    (code ++ List.replicate k 0).take 4 ≠ [0x3a, 0x63, 0x3a, 0x00] := by
  intro h
  have h4 := List.take_append_drop 4 (code ++ List.replicate k 0)
  rw [h] at h4
  have hi := raw_idxOf code k hnul
  rw [← h4] at hi
  obtain ⟨_, hlen⟩ : 0 < k ∧ 3 = code.length := by simpa [List.idxOf?, List.findIdx?_cons] using hi
  exact hnc ((List.take_left' hlen.symm).symm.trans (congrArg (List.take 3) h4).symm)

theorem getCode_raw (code : Bytes) (k v : Nat) (hlen : code.length + k = codeAreaLen)
    (hnul : (0 : UInt8) ∉ code) (hnc : v = 0 ∨ code ≠ [0x3a, 0x63, 0x3a]) :
    getCodeFromBytes (code ++ List.replicate k 0) v = .ok (code.length, replaceCR (code ++ [10]), none) := by
  unfold getCodeFromBytes
  rw [if_pos (hnc.imp id (raw_take4 code k hnul)), raw_idxOf code k hnul]
  by_cases hk : 0 < k
  · simp [hk]
  · have : k = 0 := by omega
    subst this
    simp [← hlen]

theorem getCode_compressed (code pad : Bytes) (v : Nat) (hv : v ≠ 0) (hg : C05.Guard code) :
    ∃ sz, getCodeFromBytes (header code ++ compress code ++ pad) v
      = .ok (code.length, replaceCR code, some sz) := by
  obtain ⟨sz, hsz⟩ := C05.area_roundtrip code hg pad
  refine ⟨sz, ?_⟩
  unfold getCodeFromBytes
  rw [hsz]
  have h4 : (header code ++ compress code ++ pad).take 4 = [0x3a, 0x63, 0x3a, 0x00] := by
    simp [header]
  rw [if_neg (by rw [h4]; simp [hv])]

theorem pixels_roundtrip (lbl : List (List UInt8)) (w : Nat) (c : Cart) (hl : WFLabel lbl w) (hr : WFRegions c)
    (area : Bytes) (hb : getBytesFromCode c.code c.version = .ok area) (ha : area.length = codeAreaLen)
    (n : Nat) (code : Bytes) (sz : Option Nat)
    (hcode : getCodeFromBytes area c.version = .ok (n, code, sz)) :
    ∃ rows, toPixels lbl c = .ok rows ∧ fromPixels rows = .ok { c with code := code, label := none } := by
  obtain ⟨s1, s2, s3, s4, s5, s6, hlen, s7⟩ := png_layout c area hr.gfx hr.map hr.gff hr.music hr.sfx ha hr.version
  refine ⟨encRows lbl (picodata c area), ?_, ?_⟩
  · have : ¬ c.version > 255 := Nat.not_lt.mpr (Nat.le_of_lt_succ hr.version)
    simp [toPixels, hb, bind, Except.bind, this, pure, Except.pure]
  · -- the reader looks at the first 0x8001 hidden bytes only
    obtain ⟨t, ht⟩ := stego_prefix lbl w (picodata c area) hl.rows (by rw [hlen]; exact hl.room)
    unfold fromPixels
    rw [← ht, if_neg (by rw [List.length_append, hlen]; omega)]
    simp (disch := omega) only [pySlice_append_left, getD_append_left, s1, s2, s3, s4, s5, s6, s7, hcode]
    rfl

end Pico.C04
