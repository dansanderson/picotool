import PicoVerif.Lemmas.PegAdj
/-! A second way to compute the table of the adjacency analysis (`iterTbl`), made for the kernel.

A fact about `picoTbl` is proved by evaluation, and the kernel then computes 16 rounds of `summ` over picotool's 17
nonterminals. As `summ` is written, four fifths of that work is `pairs w a b` (once for every `seq` and `star` of the
grammar, twice for every `chain`: 118 times a round): a fold over `List.range w` that tests a bit of `a` and shifts `b` at each of the `w = 72`
positions. But the copies of `b` do not overlap when `b < 2 ^ w`, so `pairs w a b` is the product `pairs w a 1 * b`
(`pairs_mul`); and `pairs w a 1` — `a` with bit `i` moved to position `i * w` — need not be computed from `a`: it is one
shift for a single pattern (`pairs_single`) and goes through `|||` (`pairs_or`). `summX` computes `summ` together with
that spread-out copy of the `last` set, with one multiplication where `summ` has the fold; `iterTbl_eq_iterX` says that
iterating it gives `iterTbl`. -/
namespace Pico.Adj
open Pico.Peg

theorem pairs_or (w a a' b : Nat) : pairs w (a ||| a') b = pairs w a b ||| pairs w a' b := by
  suffices h : ∀ n, pairsTo w (a ||| a') b n = pairsTo w a b n ||| pairsTo w a' b n from h w
  intro n
  induction n with
  | zero => simp [pairsTo]
  | succ n ih =>
    simp only [pairsTo_succ, ih, Nat.testBit_or]
    cases a.testBit n <;> cases a'.testBit n <;>
      simp only [Bool.or_self, Bool.or_true, Bool.or_false, if_true, if_false, Bool.false_eq_true] <;> ac_rfl

theorem pairs_zero (w b : Nat) : pairs w 0 b = 0 := by
  suffices h : ∀ n, pairsTo w 0 b n = 0 from h w
  intro n
  induction n with
  | zero => rfl
  | succ n ih => simp [pairsTo_succ, ih]

theorem pairs_single (w i : Nat) (hi : i < w) : pairs w (1 <<< i) 1 = 1 <<< (i * w) := by
  suffices h : ∀ n, pairsTo w (1 <<< i) 1 n = if i < n then 1 <<< (i * w) else 0 from (h w).trans (if_pos hi)
  intro n
  induction n with
  | zero => rfl
  | succ n ih =>
    rw [pairsTo_succ, ih, Nat.one_shiftLeft, Nat.testBit_two_pow]
    by_cases h : i = n
    · subst h; simp
    · by_cases h' : i < n <;> simp [h, h'] <;> omega

theorem or_shift_mul (s b k : Nat) (h : s * b < 2 ^ k) : (s ||| 1 <<< k) * b = s * b ||| b <<< k := by
  rcases Nat.eq_zero_or_pos b with rfl | hb
  · simp
  · have hs : s < 2 ^ k := Nat.lt_of_le_of_lt (Nat.le_mul_of_pos_right s hb) h
    rw [Nat.or_comm, Nat.or_comm (s * b), ← Nat.shiftLeft_add_eq_or_of_lt hs, ← Nat.shiftLeft_add_eq_or_of_lt h,
      Nat.add_mul, Nat.shiftLeft_eq, Nat.shiftLeft_eq, Nat.one_mul, Nat.mul_comm b]

/-- the pairs with a set `b` below `2 ^ w` are the spread-out `a` times `b`: no two copies of `b` overlap -/
theorem pairs_mul (w a b : Nat) (hb : b < 2 ^ w) : pairs w a b = pairs w a 1 * b := by
  suffices h : ∀ n, pairsTo w a b n = pairsTo w a 1 n * b ∧ pairsTo w a 1 n * b < 2 ^ (n * w) from (h w).1
  intro n
  induction n with
  | zero => simp [pairsTo]
  | succ n ih =>
    have hle : 2 ^ (n * w) ≤ 2 ^ ((n + 1) * w) := Nat.pow_le_pow_right (by decide) (by rw [Nat.add_mul]; omega)
    rw [pairsTo_succ, pairsTo_succ]
    split
    · rw [or_shift_mul _ _ _ ih.2, ih.1]
      refine ⟨rfl, Nat.or_lt_two_pow (Nat.lt_of_lt_of_le ih.2 hle) ?_⟩
      rw [Nat.shiftLeft_eq, Nat.add_mul, Nat.one_mul, Nat.pow_add, Nat.mul_comm]
      exact (Nat.mul_lt_mul_left (Nat.two_pow_pos _)).2 hb
    · exact ⟨ih.1, Nat.lt_of_lt_of_le ih.2 hle⟩

/-- a summary together with its `last` set spread out (`pairs w last 1`: bit `i` of `last` at position `i * w`) -/
abbrev SmX := Sm × Nat

def lift (w : Nat) (s : Sm) : SmX := (s, pairs w s.last 1)

def SmX.seq (a b : SmX) : SmX :=
  (⟨a.1.nullable && b.1.nullable, a.1.first ||| (if a.1.nullable then b.1.first else 0),
    b.1.last ||| (if b.1.nullable then a.1.last else 0), a.1.adj ||| b.1.adj ||| a.2 * b.1.first⟩,
   b.2 ||| (if b.1.nullable then a.2 else 0))
def SmX.alt (a b : SmX) : SmX := (a.1.alt b.1, a.2 ||| b.2)
def SmX.star (a : SmX) : SmX := (⟨true, a.1.first, a.1.last, a.1.adj ||| a.2 * a.1.first⟩, a.2)

/-- `summ`, on summaries with spread-out `last` sets -/
def summX (cls : List Pat) (σ : Nat → SmX) : G → SmX
  | .eps => (.eps, 0)
  | .tok p => (⟨false, 1 <<< idx cls p, 1 <<< idx cls p, 0⟩, 1 <<< (idx cls p * (cls.length + 1)))
  | .seq a b => (summX cls σ a).seq (summX cls σ b)
  | .alt a b => (summX cls σ a).alt (summX cls σ b)
  | .star g => (summX cls σ g).star
  | .nt n => σ n
  | .hard g => summX cls σ g
  | .node _ g => summX cls σ g
  | .chain f s => (summX cls σ f).seq (summX cls σ s).star
  | .fence g => summX cls σ g
  | .prevTokIs _ => (.eps, 0)
  | .notAhead _ => (.eps, 0)
  | .filterTop _ g => summX cls σ g

/-- `stepTbl` and `iterTbl`, likewise -/
def stepX (cls : List Pat) (gram : Nat → G) (tbl : List SmX) : List SmX :=
  (List.range tbl.length).map fun n => summX cls (fun n => tbl.getD n (.eps, 0)) (gram n)
def iterX (cls : List Pat) (gram : Nat → G) : Nat → List SmX → List SmX
  | 0, t => t
  | k+1, t => iterX cls gram k (stepX cls gram t)

/-- `x` is `s` with its `last` set spread out, and the `first` set of `s` lies inside the pattern table (so that `pairs`
against it is a product) -/
def Lifts (w : Nat) (x : SmX) (s : Sm) : Prop := x = lift w s ∧ s.first < 2 ^ w

theorem Lifts.eps (w : Nat) : Lifts w (.eps, 0) .eps := ⟨by simp [lift, Sm.eps, pairs_zero], Nat.two_pow_pos _⟩

theorem Lifts.seq {w : Nat} {x y : SmX} {a b : Sm} (ha : Lifts w x a) (hb : Lifts w y b) :
    Lifts w (x.seq y) (a.seq w b) := by
  obtain ⟨rfl, ha⟩ := ha
  obtain ⟨rfl, hb⟩ := hb
  refine ⟨?_, Nat.or_lt_two_pow ha (by split; exact hb; exact Nat.two_pow_pos _)⟩
  obtain ⟨an, af, al, aa⟩ := a
  obtain ⟨bn, bf, bl, ba⟩ := b
  cases an <;> cases bn <;> simp [lift, SmX.seq, Sm.seq, pairs_or, pairs_mul w _ _ hb]

theorem Lifts.alt {w : Nat} {x y : SmX} {a b : Sm} (ha : Lifts w x a) (hb : Lifts w y b) :
    Lifts w (x.alt y) (a.alt b) := by
  obtain ⟨rfl, ha⟩ := ha
  obtain ⟨rfl, hb⟩ := hb
  exact ⟨by simp only [lift, SmX.alt, Sm.alt, pairs_or], Nat.or_lt_two_pow ha hb⟩

theorem Lifts.star {w : Nat} {x : SmX} {a : Sm} (ha : Lifts w x a) : Lifts w x.star (a.star w) := by
  obtain ⟨rfl, ha⟩ := ha
  exact ⟨by simp only [lift, SmX.star, Sm.star, ← pairs_mul w _ _ ha], ha⟩

theorem summX_lifts (cls : List Pat) {σX : Nat → SmX} {σ : Nat → Sm} (hσ : ∀ n, Lifts (cls.length + 1) (σX n) (σ n))
    (g : G) : Lifts (cls.length + 1) (summX cls σX g) (summ cls σ g) := by
  induction g with
  | eps | prevTokIs | notAhead => exact Lifts.eps _
  | tok p =>
    have hi : idx cls p < cls.length + 1 := Nat.lt_succ_of_le (idx_le cls p)
    exact ⟨by simp [summX, summ, lift, pairs_single _ _ hi],
      by simpa [summ, Nat.one_shiftLeft] using Nat.pow_lt_pow_right (by decide) hi⟩
  | seq a b iha ihb => exact iha.seq ihb
  | alt a b iha ihb => exact iha.alt ihb
  | star g ih => exact ih.star
  | nt n => exact hσ n
  | hard _ ih | node _ _ ih | fence _ ih | filterTop _ _ ih => exact ih
  | chain f s ihf ihs => exact ihf.seq ihs.star

theorem lifts_getD {w : Nat} {t : List Sm} (ht : ∀ s ∈ t, s.first < 2 ^ w) (n : Nat) :
    Lifts w ((t.map (lift w)).getD n (.eps, 0)) (tblOf t n) := by
  unfold tblOf List.getD
  rw [List.getElem?_map]
  cases h : t[n]? with
  | none => exact Lifts.eps w
  | some s => exact ⟨rfl, ht s (List.mem_of_getElem? h)⟩

theorem stepX_lift (cls : List Pat) (gram : Nat → G) (t : List Sm) (ht : ∀ s ∈ t, s.first < 2 ^ (cls.length + 1)) :
    stepX cls gram (t.map (lift (cls.length + 1))) = (stepTbl cls gram t).map (lift (cls.length + 1)) ∧
      ∀ s ∈ stepTbl cls gram t, s.first < 2 ^ (cls.length + 1) := by
  have h := fun n => summX_lifts cls (lifts_getD ht) (gram n)
  constructor
  · simp only [stepX, stepTbl, List.length_map, List.map_map]
    exact List.map_congr_left fun n _ => (h n).1
  · intro s hs
    obtain ⟨n, -, rfl⟩ := List.mem_map.1 hs
    exact (h n).2

theorem iterX_lift (cls : List Pat) (gram : Nat → G) (k : Nat) (t : List Sm)
    (ht : ∀ s ∈ t, s.first < 2 ^ (cls.length + 1)) :
    iterX cls gram k (t.map (lift (cls.length + 1))) = (iterTbl cls gram k t).map (lift (cls.length + 1)) := by
  induction k generalizing t with
  | zero => rfl
  | succ k ih => rw [iterX, iterTbl, (stepX_lift cls gram t ht).1]; exact ih _ (stepX_lift cls gram t ht).2

theorem iterTbl_eq_iterX (cls : List Pat) (gram : Nat → G) (k n : Nat) :
    iterTbl cls gram k (List.replicate n .bot) = (iterX cls gram k (List.replicate n (.bot, 0))).map (·.1) := by
  have h := iterX_lift cls gram k (List.replicate n .bot)
    (fun s hs => by rw [List.eq_of_mem_replicate hs]; exact Nat.two_pow_pos _)
  have e : lift (cls.length + 1) .bot = (.bot, 0) := by simp [lift, Sm.bot, pairs_zero]
  rw [List.map_replicate, e] at h
  rw [h, List.map_map]
  exact (List.map_id' _).symm

end Pico.Adj
