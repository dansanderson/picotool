import PicoVerif.Spec.LuaLex
import PicoVerif.Lemmas.Basic
/-! Lemmas about the matchers of `Model/Lexer` and the regenerated ordered table, shared by the properties that
speak of the lexer: spans, the table as an explicit first-match cascade (`matchOne_eq`) and in membership form
(`matchOne_cases`), what the first byte decides, the byte classes, the keyword and symbol tables, the longest literal of
a set, prefix order of the literals. -/

namespace Pico.C07
open Pico.Lex

/-- the literal (symbol / newline) entries of the regenerated ordered table, in table order -/
def litBlock : List Bytes := Gen.matcherShape.filterMap fun e => if e.1 = "lit" then some e.2.2.1 else none

/-- no earlier literal is a proper prefix of a later one (so `>>` cannot shadow `>>>`) -/
def prefixOrdered : List Bytes → Bool
  | [] => true
  | l :: rest => rest.all (fun l' => !(l.isPrefixOf l' && l.length < l'.length)) && prefixOrdered rest

end Pico.C07

namespace Pico.Ast
open Pico.Lex

theorem take_spanLen (p : UInt8 → Bool) (s : Bytes) : s.take (spanLen p s) = s.takeWhile p :=
  (List.prefix_iff_eq_take.mp (List.takeWhile_prefix p)).symm

end Pico.Ast

namespace Pico.LexL
open Pico.Lex Pico.Spec.Lex

theorem spanLen_nil (p : UInt8 → Bool) : spanLen p [] = 0 := rfl

theorem spanLen_cons (p : UInt8 → Bool) (c : UInt8) (r : Bytes) :
    spanLen p (c :: r) = if p c then 1 + spanLen p r else 0 := by
  unfold spanLen
  by_cases h : p c = true <;> simp [h]; omega

theorem spanLen_le (p : UInt8 → Bool) (a : Bytes) : spanLen p a ≤ a.length :=
  (List.takeWhile_prefix (l := a) p).length_le

theorem spanLen_stop (p : UInt8 → Bool) (t : UInt8) (hp : p t = false) (a rest : Bytes) :
    spanLen p (a ++ t :: rest) = spanLen p a := by
  induction a with
  | nil => simp [spanLen, hp]
  | cons x a ih =>
    simp only [spanLen, List.cons_append, List.takeWhile_cons] at ih ⊢
    by_cases hx : p x = true <;> simp [hx, ih]

theorem spanLen_lf (p : UInt8 → Bool) (hp : p 10 = false) (a rest : Bytes) :
    spanLen p (a ++ 10 :: rest) = spanLen p a := spanLen_stop p 10 hp a rest

theorem drop_span_app (p : UInt8 → Bool) (a x : Bytes) :
    (a ++ x).drop (spanLen p a) = a.drop (spanLen p a) ++ x :=
  List.drop_append_of_le_length (spanLen_le p a)

theorem spanLen_append_all (p : UInt8 → Bool) (a b : Bytes) (h : ∀ x ∈ a, p x = true) :
    spanLen p (a ++ b) = a.length + spanLen p b := by
  simp only [spanLen, List.takeWhile_append_of_pos h, List.length_append]

theorem spanLen_head_false (p : UInt8 → Bool) (s : Bytes) (h : ∀ c, s.head? = some c → p c = false) :
    spanLen p s = 0 := by
  cases s with
  | nil => rfl
  | cons c r => rw [spanLen_cons]; simp [h c rfl]

theorem spanLen_replicate (p : UInt8 → Bool) (c : UInt8) (n : Nat) (r : Bytes) (hc : p c = true)
    (hr : ∀ d, r.head? = some d → p d = false) : spanLen p (List.replicate n c ++ r) = n := by
  rw [spanLen_append_all _ _ _ (fun x hx => by rw [List.eq_of_mem_replicate hx]; exact hc), spanLen_head_false _ _ hr,
    List.length_replicate]
  rfl

theorem spanLen_take_all (p : UInt8 → Bool) (s : Bytes) : ∀ x ∈ s.take (spanLen p s), p x = true := by
  rw [Ast.take_spanLen]; exact List.all_eq_true.mp List.all_takeWhile

theorem drop_spanLen (p : UInt8 → Bool) (s : Bytes) : s.drop (spanLen p s) = s.dropWhile p := by
  have h := List.takeWhile_append_dropWhile (p := p) (l := s)
  rw [← Ast.take_spanLen] at h
  exact List.append_cancel_left ((List.take_append_drop _ s).trans h.symm)

theorem spanLen_drop_head (p : UInt8 → Bool) (s : Bytes) (c : UInt8)
    (h : (s.drop (spanLen p s)).head? = some c) : p c = false := by
  have := List.head?_dropWhile_not p s
  rwa [← drop_spanLen, h] at this

theorem spanLen_append_ge (p : UInt8 → Bool) (a r : Bytes) (h : a.length ≤ spanLen p (a ++ r)) :
    (∀ x ∈ a, p x = true) := fun x hx =>
  spanLen_take_all p (a ++ r) x (List.take_subset_take_left _ h (List.take_left.symm ▸ hx))

theorem spanLen_mono {p q : UInt8 → Bool} (h : ∀ b, p b = true → q b = true) (s : Bytes) : spanLen p s ≤ spanLen q s := by
  induction s with
  | nil => exact Nat.le_refl _
  | cons c r ih =>
    rw [spanLen_cons, spanLen_cons]
    by_cases hc : p c = true
    · rw [if_pos hc, if_pos (h c hc)]; omega
    · rw [if_neg hc]; exact Nat.zero_le _

theorem spanLen_add_le (q : UInt8 → Bool) (s : Bytes) (i j : Nat) (hi : i ≤ spanLen q s)
    (hj : j ≤ spanLen q (s.drop i)) : i + j ≤ spanLen q s := by
  have hall : ∀ x ∈ s.take i, q x = true := fun x hx =>
    spanLen_take_all q s x (List.take_subset_take_left s hi hx)
  have := spanLen_append_all q (s.take i) (s.drop i) hall
  rw [List.take_append_drop, List.length_take_of_le (Nat.le_trans hi (spanLen_le q s))] at this
  omega

def firstSome : List (Kind × Option Nat) → Option (Kind × Nat)
  | [] => none
  | (k, some n) :: _ => some (k, n)
  | (_, none) :: r => firstSome r

@[simp] theorem firstSome_nil : firstSome [] = none := rfl

@[simp] theorem firstSome_some (k : Kind) (n : Nat) (r : List (Kind × Option Nat)) :
    firstSome ((k, some n) :: r) = some (k, n) := rfl

@[simp] theorem firstSome_skip (k : Kind) (r : List (Kind × Option Nat)) : firstSome ((k, none) :: r) = firstSome r := rfl

theorem firstSome_head (k : Kind) (o : Option Nat) (r : List (Kind × Option Nat)) :
    firstSome ((k, o) :: r) = (o.map fun n => (k, n)).or (firstSome r) := by cases o <;> rfl

theorem firstSome_append (l1 l2 : List (Kind × Option Nat)) :
    firstSome (l1 ++ l2) = (firstSome l1).or (firstSome l2) := by
  induction l1 with
  | nil => simp [firstSome]
  | cons e r ih =>
    obtain ⟨k, o⟩ := e
    cases o <;> simp [firstSome, ih]

theorem matchOne_firstSome (l : List Entry) (s : Bytes) :
    matchOne l s = firstSome (l.map fun e => ((kindOfClass e.2.2.2).getD .symbol, entryMatch e s)) := by
  induction l with
  | nil => rfl
  | cons e r ih =>
    simp only [matchOne, List.map_cons]
    cases h : entryMatch e s <;> simp [firstSome, ih]

theorem firstSome_kind (l : List (Kind × Option Nat)) (k : Kind) (n : Nat) (h : firstSome l = some (k, n)) :
    (k, some n) ∈ l := by
  induction l with
  | nil => simp [firstSome] at h
  | cons e r ih =>
    obtain ⟨k', o⟩ := e
    cases o with
    | none => simp only [firstSome] at h; exact List.mem_cons_of_mem _ (ih h)
    | some m => simp only [firstSome, Option.some.injEq, Prod.mk.injEq] at h; simp [h.1, h.2]

theorem firstSome_none (l : List (Kind × Option Nat)) (h : firstSome l = none) : ∀ e ∈ l, e.2 = none := by
  induction l with
  | nil => simp
  | cons e r ih =>
    obtain ⟨k, o⟩ := e
    cases o with
    | some n => simp [firstSome] at h
    | none =>
      simp only [firstSome] at h
      intro e' he'
      rcases List.mem_cons.mp he' with rfl | he'
      · rfl
      · exact ih h e' he'

/-- if the block `B` of a cascade holds all its entries of kind `k`, a match of kind `k` is the first match in `B`, and
nothing before `B` matched -/
theorem firstSome_block {k : Kind} {n : Nat} (A B C : List (Kind × Option Nat)) (hA : k ∉ A.map (·.1))
    (hC : k ∉ C.map (·.1)) (h : firstSome (A ++ B ++ C) = some (k, n)) :
    firstSome A = none ∧ firstSome B = some (k, n) := by
  rw [firstSome_append, firstSome_append] at h
  cases hA' : firstSome A with
  | some kn =>
    rw [hA', Option.some_or, Option.some_or] at h
    cases h
    exact absurd (List.mem_map_of_mem (firstSome_kind _ _ _ hA')) hA
  | none =>
    rw [hA', Option.none_or] at h
    cases hB : firstSome B with
    | some kn => rw [hB, Option.some_or] at h; exact ⟨rfl, h⟩
    | none => rw [hB, Option.none_or] at h; exact absurd (List.mem_map_of_mem (firstSome_kind _ _ _ h)) hC

def numMatchers : List (Bytes → Option Nat) :=
  [mRadix 120 88 isHexDigit, mRadixFrac 120 88 isHexDigit, mRadix 98 66 isBinDigit, mRadixFrac 98 66 isBinDigit,
   mDecimal, mDotDecimal]

def candsPre (s : Bytes) : List (Kind × Option Nat) :=
  [(.comment, mLineComment 45 s), (.comment, mLineComment 47 s), (.space, mSpace s),
   (.newline, mLit [13, 10] s), (.newline, mLit [10] s), (.newline, mLit [13] s)]

def candsNum (s : Bytes) : List (Kind × Option Nat) := numMatchers.map fun m => (.number, m s)

def candsSym (s : Bytes) : List (Kind × Option Nat) := symbolSet.map fun l => (.symbol, mLit l s)

/-- The closing `rfl` is the obligation that the regenerated table still splits as pre ++ numerals ++ [label, keyword] ++
symbols ++ [name, `?`] (DESIGN 2.3: "the matcher table must split"), re-checked on every run. -/
theorem matchOne_eq (s : Bytes) :
    matchOne Gen.matcherShape s =
      firstSome (candsPre s ++ candsNum s ++ [(.label, mLabel s), (.keyword, mKeywordLA Gen.matcherKeywords s)] ++ candsSym s ++
        [(.name, mName s), (.name, mLit [63] s)]) := by
  rw [matchOne_firstSome]; rfl

/-- the entries of the cascade that produce tokens of kind `k`: one of them matched `n` bytes of `s` -/
def FromEntry (s : Bytes) (n : Nat) : Kind → Prop
  | .comment => mLineComment 45 s = some n ∨ mLineComment 47 s = some n
  | .space => mSpace s = some n
  | .newline => mLit [13, 10] s = some n ∨ mLit [10] s = some n ∨ mLit [13] s = some n
  | .number => mRadix 120 88 isHexDigit s = some n ∨ mRadixFrac 120 88 isHexDigit s = some n ∨
      mRadix 98 66 isBinDigit s = some n ∨ mRadixFrac 98 66 isBinDigit s = some n ∨ mDecimal s = some n ∨
      mDotDecimal s = some n
  | .label => mLabel s = some n
  | .keyword => mKeywordLA Gen.matcherKeywords s = some n
  | .symbol => ∃ l ∈ symbolSet, mLit l s = some n
  | .name => mName s = some n ∨ mLit [63] s = some n
  | .string => False

theorem matchOne_cases {s : Bytes} {k : Kind} {n : Nat} (h : matchOne Gen.matcherShape s = some (k, n)) : FromEntry s n k := by
  have := firstSome_kind _ _ _ (matchOne_eq s ▸ h)
  simp only [candsPre, candsNum, numMatchers, candsSym, List.map_cons, List.map_nil, List.mem_append, List.mem_cons,
    List.mem_map, Prod.mk.injEq,
    List.not_mem_nil, or_false, @eq_comm _ (some n)] at this
  cases k <;> simp only [reduceCtorEq, false_and, true_and, false_or, or_false, and_false, exists_false] at this <;>
    exact this

theorem matchOne_ne_string {s : Bytes} {n : Nat} : matchOne Gen.matcherShape s ≠ some (.string, n) :=
  fun h => matchOne_cases h

theorem firstSome_lits (k : Kind) (lits : List Bytes) (s : Bytes) (hne : ∀ l ∈ lits, l ≠ []) :
    firstSome (lits.map fun l => (k, mLit l s)) =
      (lits.find? (fun l => l.isPrefixOf s)).map (fun l => (k, l.length)) := by
  induction lits with
  | nil => rfl
  | cons a rest ih =>
    have ha : a ≠ [] := hne a (by simp)
    rw [List.map_cons, List.find?_cons, mLit]
    cases hp : a.isPrefixOf s <;> simp [ha, ih (fun l hl => hne l (by simp [hl]))]

theorem mLineComment_eq (c0 : UInt8) (s : Bytes) : mLineComment c0 s =
    if [c0, c0].isPrefixOf s then some (2 + spanLen (· != 10) (s.drop 2)) else none := by
  match s with
  | [] => simp [mLineComment]
  | [a] => simp [mLineComment, List.isPrefixOf]
  | a :: b :: rest =>
    simp only [mLineComment, List.isPrefixOf, Bool.and_true, List.drop_succ_cons, List.drop_zero]
    by_cases h1 : a = c0
    · by_cases h2 : b = c0
      · simp [h1, h2]
      · simp [h1, h2, Ne.symm h2]
    · simp [h1, Ne.symm h1]

theorem mSpace_ne {c : UInt8} {r : Bytes} (h1 : c ≠ 32) (h2 : c ≠ 9) : mSpace (c :: r) = none := by
  simp [mSpace, spanLen, h1, h2]

theorem mSpace_eq {c : UInt8} {r : Bytes} (h : c = 32 ∨ c = 9) :
    mSpace (c :: r) = some (1 + spanLen (fun b => b == 32 || b == 9) r) := by
  have : (c == 32 || c == 9) = true := by simpa using h
  simp [mSpace, spanLen, this]; omega

theorem mLit_ne {a c : UInt8} {l r : Bytes} (h : c ≠ a) : mLit (a :: l) (c :: r) = none := by
  simp [mLit, List.isPrefixOf, Ne.symm h]

theorem mLit_some (l s : Bytes) (n : Nat) (h : mLit l s = some n) : n = l.length ∧ l <+: s ∧ s.take n = l := by
  unfold mLit at h
  split at h
  · rename_i hc
    simp only [Option.some.injEq] at h
    have hp := List.isPrefixOf_iff_prefix.mp hc.1
    refine ⟨h.symm, hp, ?_⟩
    rw [← h]; exact (List.prefix_iff_eq_take.mp hp).symm
  · cases h

theorem mRadix_ne {p1 p2 : UInt8} {dig : UInt8 → Bool} {c : UInt8} {r : Bytes} (h : c ≠ 48) :
    mRadix p1 p2 dig (c :: r) = none := by
  cases r <;> simp [mRadix, h]

theorem mRadixFrac_ne {p1 p2 : UInt8} {dig : UInt8 → Bool} {c : UInt8} {r : Bytes} (h : c ≠ 48) :
    mRadixFrac p1 p2 dig (c :: r) = none := by
  match r with
  | [] => simp [mRadixFrac]
  | [_] => simp [mRadixFrac]
  | _ :: _ :: _ => simp [mRadixFrac, h]

theorem mDecimal_ne {c : UInt8} {r : Bytes} (h : isDigit c = false) : mDecimal (c :: r) = none := by
  simp [mDecimal, spanLen, h]

theorem mDotDecimal_ne {c : UInt8} {r : Bytes} (h : c ≠ 46) : mDotDecimal (c :: r) = none := by
  simp [mDotDecimal, h]

theorem mLabel_ne {c : UInt8} {r : Bytes} (h : c ≠ 58) : mLabel (c :: r) = none := by
  match r with
  | [] => simp [mLabel]
  | [_] => simp [mLabel]
  | _ :: _ :: _ => simp [mLabel, h]

theorem mName_ne {c : UInt8} {r : Bytes} (h : isIdentStart c = false) : mName (c :: r) = none := by
  simp [mName, h]

theorem candsPre_none (h : UInt8) (t : Bytes) (h1 : h ≠ 45) (h2 : h ≠ 47) (h3 : h ≠ 32) (h4 : h ≠ 9)
    (h5 : h ≠ 13) (h6 : h ≠ 10) : firstSome (candsPre (h :: t)) = none := by
  simp [candsPre, firstSome, mLineComment_eq, List.isPrefixOf, Ne.symm h1, Ne.symm h2, mSpace_ne h3 h4, mLit_ne h5,
    mLit_ne h6]

theorem candsNum_none (h : UInt8) (t : Bytes) (h1 : isDigit h = false) (h2 : h ≠ 46) :
    firstSome (candsNum (h :: t)) = none := by
  have h48 : h ≠ 48 := by intro e; rw [e] at h1; exact absurd h1 (by decide)
  simp [candsNum, numMatchers, firstSome, mRadix_ne h48, mRadixFrac_ne h48, mDecimal_ne h1, mDotDecimal_ne h2]

/-- a successful `\.[0-9]+…` match begins `.` digit -/
theorem mDotDecimal_some {s : Bytes} {n : Nat} (h : mDotDecimal s = some n) :
    2 ≤ n ∧ ∃ d rest, s = 46 :: d :: rest ∧ isDigit d = true := by
  cases s with
  | nil => cases h
  | cons c r =>
    simp only [mDotDecimal] at h
    split at h
    · next hc =>
      split at h
      · cases h
      · next hn =>
        cases h
        refine ⟨by omega, ?_⟩
        cases r with
        | nil => exact absurd rfl hn
        | cons d r' =>
          refine ⟨d, r', by rw [hc], ?_⟩
          rw [spanLen_cons] at hn
          by_cases hd : isDigit d = true
          · exact hd
          · simp [hd] at hn
    · cases h

/-- what a match of the label pattern looks like: `::`, an identifier, `::` -/
theorem mLabel_some {s : Bytes} {n : Nat} (h : mLabel s = some n) :
    5 ≤ n ∧ ∃ c id z, s = 58 :: 58 :: c :: (id ++ 58 :: 58 :: z) ∧ isIdentStart c = true ∧
      (∀ b ∈ id, isIdentChar b = true) ∧ n = 3 + id.length + 2 := by
  match s with
  | [] => cases h
  | [_] => cases h
  | [_, _] => cases h
  | a :: b :: c :: rest =>
    simp only [mLabel] at h
    split at h
    · next hc =>
      obtain ⟨rfl, rfl, hc⟩ := hc
      split at h
      · next x y tl heq =>
        split at h
        · next hxy =>
          obtain ⟨rfl, rfl⟩ := hxy
          cases h
          have hle := spanLen_le isIdentChar rest
          refine ⟨by omega, c, rest.take (spanLen isIdentChar rest), tl, ?_, hc, spanLen_take_all isIdentChar rest, ?_⟩
          · rw [← heq, List.take_append_drop]
          · rw [List.length_take, Nat.min_eq_left hle]
        · cases h
      · cases h
    · cases h

def kwStart (c : UInt8) : Bool := Gen.matcherKeywords.any (fun l => l.head? == some c)
def symStart (c : UInt8) : Bool := symbolSet.any (fun l => l.head? == some c)

theorem matcherKeywords_identChar :
    (Gen.matcherKeywords.all fun kw => kw.all isIdentChar && (kw.head?.map isIdentStart).getD false) = true := by
  decide +kernel

theorem kw_eq : Gen.luaKeywords = Gen.matcherKeywords := by decide +kernel

theorem matcherKeywords_all_identChar (kw : Bytes) (h : kw ∈ Gen.matcherKeywords) : ∀ b ∈ kw, isIdentChar b = true := by
  have := List.all_eq_true.mp matcherKeywords_identChar kw h
  simp only [Bool.and_eq_true, List.all_eq_true] at this
  exact this.1

theorem matcherKeywords_ne : ∀ l ∈ Gen.matcherKeywords, l ≠ [] := by
  intro l hl h0
  have := List.all_eq_true.mp matcherKeywords_identChar l hl
  simp [h0] at this

theorem kwStart_identStart {b : UInt8} (h : kwStart b = true) : isIdentStart b = true := by
  obtain ⟨kw, hkw, hb⟩ := List.any_eq_true.mp h
  have := List.all_eq_true.mp matcherKeywords_identChar kw hkw
  cases kw with
  | nil => simp at hb
  | cons c t =>
    simp only [List.head?_cons, beq_iff_eq, Option.some.injEq] at hb
    simp only [List.head?_cons, Option.map_some, Option.getD_some, Bool.and_eq_true] at this
    rw [← hb]; exact this.2

theorem digit_identChar (b : UInt8) (h : isDigit b = true) : isIdentChar b = true := by
  simp [isIdentChar, h]

theorem hex_identChar (b : UInt8) (h : isHexDigit b = true) : isIdentChar b = true := by
  have := forall_u8 (fun b => !isHexDigit b || isIdentChar b) (by decide +kernel) b
  simpa [h] using this

theorem bin_identChar (b : UInt8) (h : isBinDigit b = true) : isIdentChar b = true := by
  have := forall_u8 (fun b => !isBinDigit b || isIdentChar b) (by decide +kernel) b
  simpa [h] using this

def symHeadOK (b : UInt8) : Bool :=
  b != 32 && b != 9 && b != 13 && b != 10 && !isDigit b && !isIdentStart b && b != 39 && b != 34 && !isIdentChar b &&
    b != 63

/-- one pass over the symbol literals, not over the 256 bytes -/
theorem sym_heads : (symbolSet.all fun l => (l.head?.map symHeadOK).getD false) = true := by decide +kernel

theorem symbolSet_ne : ∀ l ∈ symbolSet, l ≠ [] := by
  intro l hl h0
  have := List.all_eq_true.mp sym_heads l hl
  simp [h0] at this

theorem symStart_ok {b : UInt8} (h : symStart b = true) : symHeadOK b = true := by
  obtain ⟨l, hl, hb⟩ := List.any_eq_true.mp h
  have := List.all_eq_true.mp sym_heads l hl
  rw [beq_iff_eq] at hb
  simpa [hb] using this

theorem symStart_false {b : UInt8} (h : symHeadOK b = false) : symStart b = false := by
  cases hs : symStart b
  · rfl
  · rw [symStart_ok hs] at h; cases h

theorem symHead_facts (b : UInt8) (h : symStart b = true) :
    b ≠ 32 ∧ b ≠ 9 ∧ b ≠ 13 ∧ b ≠ 10 ∧ isDigit b = false ∧ isIdentStart b = false ∧ b ≠ 39 ∧ b ≠ 34 ∧
      isIdentChar b = false ∧ b ≠ 63 := by
  have := symStart_ok h
  simp only [symHeadOK, Bool.and_eq_true, bne_iff_ne, ne_eq, Bool.not_eq_true', and_assoc] at this
  exact this

theorem symbolSet_head (x : Bytes) (hx : x ∈ symbolSet) : ∃ h t, x = h :: t ∧ symStart h = true := by
  cases x with
  | nil => exact absurd rfl (symbolSet_ne _ hx)
  | cons h t => exact ⟨h, t, rfl, List.any_eq_true.mpr ⟨h :: t, hx, by simp⟩⟩

theorem identStart_not_sym {b : UInt8} (h : isIdentStart b = true) : symStart b = false := by
  cases hs : symStart b
  · rfl
  · rw [(symHead_facts b hs).2.2.2.2.2.1] at h; cases h

def identStartOK (b : UInt8) : Bool :=
  !isIdentStart b || (b != 45 && b != 47 && b != 32 && b != 9 && b != 13 && b != 10 && !isDigit b && b != 46 &&
    b != 58 && b != 91 && b != 39 && b != 34 && b != 63 && isIdentChar b)

theorem identStart_ok : ∀ b, identStartOK b = true := forall_u8 _ (by decide +kernel)

theorem identStart_facts (b : UInt8) (h : isIdentStart b = true) :
    b ≠ 45 ∧ b ≠ 47 ∧ b ≠ 32 ∧ b ≠ 9 ∧ b ≠ 13 ∧ b ≠ 10 ∧ isDigit b = false ∧ b ≠ 46 ∧ b ≠ 58 ∧ b ≠ 91 ∧
    b ≠ 39 ∧ b ≠ 34 ∧ b ≠ 63 ∧ isIdentChar b = true ∧ symStart b = false := by
  have := identStart_ok b
  simp only [identStartOK, h, Bool.not_true, Bool.false_or, Bool.and_eq_true, bne_iff_ne, ne_eq,
    Bool.not_eq_true', and_assoc] at this
  obtain ⟨h1, h2, h3, h4, h5, h6, h7, h8, h9, h10, h11, h12, h13, h14⟩ := this
  exact ⟨h1, h2, h3, h4, h5, h6, h7, h8, h9, h10, h11, h12, h13, h14, identStart_not_sym h⟩

theorem kwStart_false {b : UInt8} (h : isIdentStart b = false) : kwStart b = false := by
  cases hk : kwStart b
  · rfl
  · rw [kwStart_identStart hk] at h; cases h

theorem digit_facts (b : UInt8) (h : isDigit b = true) :
    isIdentStart b = false ∧ symStart b = false ∧ kwStart b = false := by
  have hi : isIdentStart b = false := by
    cases hi : isIdentStart b
    · rfl
    · rw [(identStart_facts b hi).2.2.2.2.2.2.1] at h; cases h
  refine ⟨hi, ?_, kwStart_false hi⟩
  cases hs : symStart b
  · rfl
  · rw [(symHead_facts b hs).2.2.2.2.1] at h; cases h

theorem find_prefix_none (lits : List Bytes) (c : UInt8) (r : Bytes) (p : Bytes → Bool)
    (h : lits.any (fun l => l.head? == some c) = false) (hne : ∀ l ∈ lits, l ≠ []) :
    lits.find? (fun l => l.isPrefixOf (c :: r) && p l) = none := by
  rw [List.find?_eq_none]
  intro l hl
  have h1 := hne l hl
  rw [List.any_eq_false] at h
  have h2 := h l hl
  cases l with
  | nil => exact absurd rfl h1
  | cons a l' =>
    have : a ≠ c := by simpa using h2
    simp [List.isPrefixOf, this]

theorem mKeywordLA_ne {c : UInt8} {r : Bytes} (h : kwStart c = false) :
    mKeywordLA Gen.matcherKeywords (c :: r) = none := by
  unfold mKeywordLA
  rw [find_prefix_none _ c r _ h matcherKeywords_ne]; rfl

theorem symFind_ne {c : UInt8} {r : Bytes} (h : symStart c = false) :
    symbolSet.find? (fun l => l.isPrefixOf (c :: r)) = none := by
  have := find_prefix_none symbolSet c r (fun _ => true) h symbolSet_ne
  simpa using this

/-- the bounds of the fold are the common bounds of its start value and of every literal that is a prefix -/
theorem foldl_longest_le_iff (lits : List Bytes) (s : Bytes) (b k : Nat) :
    lits.foldl (fun best l => if l.isPrefixOf s ∧ l.length > best then l.length else best) b ≤ k ↔
      b ≤ k ∧ ∀ l ∈ lits, l.isPrefixOf s = true → l.length ≤ k := by
  induction lits generalizing b with
  | nil => simp
  | cons a rest ih =>
    rw [List.foldl_cons, ih, List.forall_mem_cons, ← and_assoc]
    refine and_congr_left fun _ => ?_
    split
    · next h => exact ⟨fun hk => ⟨by omega, fun _ => hk⟩, fun hk => hk.2 h.1⟩
    · next h => exact ⟨fun hk => ⟨hk, fun hp => Nat.le_trans (Nat.le_of_not_lt fun hl => h ⟨hp, hl⟩) hk⟩, fun hk => hk.1⟩

theorem longest_ge {lits : List Bytes} {s l : Bytes} (hl : l ∈ lits) (hp : l.isPrefixOf s = true) :
    l.length ≤ longestPrefixIn lits s := ((foldl_longest_le_iff lits s 0 _).mp (Nat.le_refl _)).2 l hl hp

theorem longest_le {lits : List Bytes} {s : Bytes} {k : Nat}
    (h : ∀ l ∈ lits, l.isPrefixOf s = true → l.length ≤ k) : longestPrefixIn lits s ≤ k :=
  (foldl_longest_le_iff lits s 0 k).mpr ⟨Nat.zero_le _, h⟩

/-- no literal of `lits` reaches beyond `a` in `a ++ b`, if none is `a` followed by a non-empty prefix of `b` -/
theorem longest_beyond (lits : List Bytes) (a b : Bytes) (h : ∀ c m, a ++ c :: m ∈ lits → c :: m <+: b → False) :
    decide (longestPrefixIn lits (a ++ b) > a.length) = false := by
  simp only [decide_eq_false_iff_not, Nat.not_lt]
  refine longest_le fun l hl hp => Classical.byContradiction fun hlen => ?_
  have hp' := List.isPrefixOf_iff_prefix.mp hp
  obtain ⟨m, rfl⟩ := List.prefix_of_prefix_length_le (List.prefix_append a _) hp' (by omega)
  cases m with
  | nil => simp at hlen
  | cons c m' => exact h c m' hl ((List.prefix_append_right_inj _).mp hp')

open Pico.C07 in
theorem ordered_first_longest (lits : List Bytes) (s l : Bytes) (h : prefixOrdered lits = true)
    (hf : lits.find? (fun x => x.isPrefixOf s) = some l) : ∀ l' ∈ lits, l'.isPrefixOf s = true → l'.length ≤ l.length := by
  induction lits with
  | nil => simp at hf
  | cons a rest ih =>
    simp only [prefixOrdered, Bool.and_eq_true, List.all_eq_true] at h
    intro l' hl' hp
    rw [List.find?_cons] at hf
    split at hf
    · next ha =>
      cases hf
      rcases List.mem_cons.mp hl' with rfl | hm
      · exact Nat.le_refl _
      · have h1 := h.1 l' hm
        refine Nat.le_of_not_lt fun hlt => ?_
        have hpre : l <+: l' :=
          List.prefix_of_prefix_length_le (List.isPrefixOf_iff_prefix.mp ha) (List.isPrefixOf_iff_prefix.mp hp) (by omega)
        simp [List.isPrefixOf_iff_prefix.mpr hpre] at h1
        omega
    · next ha =>
      rcases List.mem_cons.mp hl' with rfl | hm
      · simp [ha] at hp
      · exact ih h.2 hf l' hm hp

open Pico.C07 in
theorem prefixOrdered_sublist {l₁ l₂ : List Bytes} (hs : l₁.Sublist l₂) (h : prefixOrdered l₂ = true) :
    prefixOrdered l₁ = true := by
  induction hs with
  | slnil => rfl
  | cons a _ ih =>
    simp only [prefixOrdered, Bool.and_eq_true] at h
    exact ih h.2
  | cons_cons a hs ih =>
    simp only [prefixOrdered, Bool.and_eq_true, List.all_eq_true] at h ⊢
    exact ⟨fun l' hl' => h.1 l' (hs.subset hl'), ih h.2⟩

theorem litBlock_ordered : C07.prefixOrdered C07.litBlock = true := by decide +kernel

/-- the symbols of the grammar are a sub-table of the literal block, so their first match is their longest -/
theorem symbols_first_longest (s l : Bytes) (hf : symbolSet.find? (fun x => x.isPrefixOf s) = some l) :
    ∀ l' ∈ symbolSet, l'.isPrefixOf s = true → l'.length ≤ l.length :=
  ordered_first_longest _ s l
    (prefixOrdered_sublist (by decide +kernel : symbolSet.Sublist C07.litBlock) litBlock_ordered) hf

end Pico.LexL
