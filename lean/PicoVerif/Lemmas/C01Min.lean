import PicoVerif.Lemmas.C01Inv
import PicoVerif.Lemmas.C01
/-! The minifying writer for C01, renaming aside: what the name-keeping writer writes for each token of a well-formed
token list, and that the text lexes back to those tokens (`main_run`). -/
namespace Pico.C01L
open Pico.Lex Pico.Wr Pico.LexL
open Pico.C01 (sigToks)

/-- name, keyword or number: the kinds after which the writer sets `lastNKN` (it also does after `]`, `)`, `}`: `wordAfter`) -/
def nkn (t : Tok) : Bool := t.kind == .name || t.kind == .keyword || t.kind == .number

def inner (d : Bytes) : Bytes := (d.drop 2).take (d.length - 4)

theorem inner_label (id : Bytes) : inner ([58, 58] ++ id ++ [58, 58]) = id := by
  simp [inner]

theorem labelOK_inner (d : Bytes) (h : LabelOK d) : d = [58, 58] ++ inner d ++ [58, 58] ∧ IdLike (inner d) := by
  obtain ⟨id, rfl, hne, hs, hall⟩ := h
  rw [inner_label]
  exact ⟨rfl, hne, hs, hall⟩

theorem code_plain (t : Tok) (h : t.kind ≠ .string) : t.code = t.data := by
  simp [Tok.code, h]

/-- the writer that keeps every name -/
abbrev kcfg : NameCfg := { keepAll := true }

theorem getShortName_keepAll (ns : NameSt) (n : Bytes) : getShortName kcfg ns n = (ns, n) := by simp [getShortName]

/-- the name factory after the writer has handled the token `t` -/
def namesAfter (cfg : NameCfg) (ns : NameSt) (t : Tok) : NameSt :=
  if t.kind = .name then (getShortName cfg ns t.data).1
  else if t.kind = .label then (getShortName cfg ns (inner t.data)).1
  else ns

/-- the text written for the significant token `t` -/
def written (cfg : NameCfg) (ns : NameSt) (t : Tok) : Bytes :=
  if t.kind = .name then (getShortName cfg ns t.data).2
  else if t.kind = .label then [58, 58] ++ (getShortName cfg ns (inner t.data)).2 ++ [58, 58]
  else t.code

/-- whether the writer remembers the significant token `t` as a word (`_last_was_name_keyword_number`, lua.py:1547) -/
def wordAfter (t : Tok) : Bool :=
  if nkn t then true else if t.kind = .label then false else minStep.Compress_isInfix t.code [93, 41, 125]

theorem minStep_sig (cfg : NameCfg) (st : MinSt) (t : Tok) (ht : t.trivia = false) :
    minStep cfg st t =
      ({ st with names := namesAfter cfg st.names t, lastNKN := wordAfter t, lastNL := false, seenCode := true },
        (if st.lastNKN && nkn t then [[32]] else []) ++ [written cfg st.names t]) := by
  obtain ⟨names, lastNKN, lastNL, hdr, seenCode⟩ := st
  cases hk : t.kind <;> simp [Tok.trivia, hk] at ht <;> cases seenCode <;>
    simp [minStep, hk, Tok.trivia, namesAfter, written, wordAfter, nkn, inner]

theorem written_keep (ns : NameSt) (t : Tok) (hl : t.kind = .label → t.data = [58, 58] ++ inner t.data ++ [58, 58]) :
    written kcfg ns t = t.code := by
  unfold written
  split
  · next hk => rw [getShortName_keepAll, code_plain t (by simp [hk])]
  · split
    · next hk => rw [getShortName_keepAll, code_plain t (by simp [hk])]; exact (hl hk).symm
    · rfl

theorem minStep_keep (st : MinSt) (t : Tok) (ht : t.trivia = false) (hl : t.kind = .label → LabelOK t.data) :
    (minStep kcfg st t).2 = (if st.lastNKN && nkn t then [[32]] else []) ++ [t.code] ∧
    (minStep kcfg st t).1.seenCode = true ∧ (minStep kcfg st t).1.lastNL = false ∧
    (nkn t = true → (minStep kcfg st t).1.lastNKN = true) := by
  rw [minStep_sig kcfg st t ht, written_keep st.names t fun hk => (labelOK_inner t.data (hl hk)).1]
  exact ⟨rfl, rfl, rfl, fun h => by simp [wordAfter, h]⟩

theorem minStep_newline (cfg : NameCfg) (st : MinSt) (t : Tok) (hk : t.kind = .newline) :
    minStep cfg st t = ({ st with lastNKN := false, lastNL := true }, if st.lastNL then [] else [[10]]) := by
  simp [minStep, hk, Tok.trivia]

theorem minStep_space (cfg : NameCfg) (st : MinSt) (t : Tok) (hk : t.kind = .space) :
    minStep cfg st t = (st, []) := by
  simp [minStep, hk, Tok.trivia]

theorem minStep_comment (cfg : NameCfg) (st : MinSt) (t : Tok) (hk : t.kind = .comment) :
    minStep cfg st t = if !st.seenCode && st.hdr < 2 then ({ st with hdr := st.hdr + 1 }, [t.code, [10]]) else (st, []) := by
  simp [minStep, hk, Tok.trivia]

theorem needsSpace_head (prev cur : Bytes) (c : UInt8) (hc : cur.head? = some c) (h1 : c ≠ 45) (h2 : c ≠ 91)
    (h3 : c ≠ 46) : needsSpace prev cur = false := by
  unfold needsSpace
  rw [hc]
  cases prev.getLast? <;> simp [h1, h2, h3]

theorem needsSpace_nil_cur (prev : Bytes) : needsSpace prev [] = false := by
  unfold needsSpace; cases prev.getLast? <;> rfl

theorem needsSpace_sp (cur : Bytes) : needsSpace [32] cur = false := by
  unfold needsSpace; cases cur.head? <;> simp [isDigit]

theorem needsSpace_nl (cur : Bytes) : needsSpace [10] cur = false := by
  unfold needsSpace; cases cur.head? <;> simp [isDigit]

theorem joinChunks_cons (prev c : Bytes) (rest : List Bytes) :
    joinChunks prev (c :: rest) = (if needsSpace prev c then [32] else []) ++ c ++ joinChunks c rest := rfl

theorem joinChunks_nil (prev : Bytes) : joinChunks prev [] = [] := rfl

/-- the text written from a writer state on -/
def out (cfg : NameCfg) (st : MinSt) (prev : Bytes) (toks : List Tok) : Bytes :=
  joinChunks prev (minChunks cfg st toks)

theorem out_nil (cfg : NameCfg) (st : MinSt) (prev : Bytes) : out cfg st prev [] = [] := rfl

theorem out_cons (cfg : NameCfg) (st : MinSt) (prev : Bytes) (t : Tok) (rest : List Tok) :
    out cfg st prev (t :: rest) =
      joinChunks prev ((minStep cfg st t).2 ++ minChunks cfg (minStep cfg st t).1 rest) := rfl

theorem out_sig (st : MinSt) (prev : Bytes) (t : Tok) (rest : List Tok) (htr : t.trivia = false)
    (hl : t.kind = .label → LabelOK t.data) :
    out kcfg st prev (t :: rest) =
      (if (st.lastNKN && nkn t) || needsSpace prev t.code then [32] else []) ++ t.code ++
        out kcfg (minStep kcfg st t).1 t.code rest := by
  rw [out_cons, (minStep_keep st t htr hl).1]
  cases st.lastNKN && nkn t with
  | false => rfl
  | true =>
    simp only [if_true, List.cons_append, List.nil_append, joinChunks_cons, needsSpace_sp, Bool.true_or,
      needsSpace_head prev [32] 32 rfl (by decide) (by decide) (by decide)]
    rfl

theorem out_space (st : MinSt) (prev : Bytes) (t : Tok) (rest : List Tok) (hk : t.kind = .space) :
    out kcfg st prev (t :: rest) = out kcfg st prev rest := by
  rw [out_cons, minStep_space kcfg st t hk]; rfl

theorem out_newline (st : MinSt) (prev : Bytes) (t : Tok) (rest : List Tok) (hk : t.kind = .newline) :
    out kcfg st prev (t :: rest) =
      if st.lastNL then out kcfg { st with lastNKN := false, lastNL := true } prev rest
      else [10] ++ out kcfg { st with lastNKN := false, lastNL := true } [10] rest := by
  rw [out_cons, minStep_newline kcfg st t hk]
  cases st.lastNL with
  | true => rfl
  | false =>
    simp only [Bool.false_eq_true, if_false, List.cons_append, List.nil_append, joinChunks_cons,
      needsSpace_head prev [10] 10 rfl (by decide) (by decide) (by decide)]
    rfl

theorem out_comment (st : MinSt) (prev : Bytes) (t : Tok) (rest : List Tok) (hk : t.kind = .comment) :
    out kcfg st prev (t :: rest) =
      if !st.seenCode && decide (st.hdr < 2) then
        (if needsSpace prev t.data then [32] else []) ++ t.data ++
          ([10] ++ out kcfg { st with hdr := st.hdr + 1 } [10] rest)
      else out kcfg st prev rest := by
  rw [out_cons, minStep_comment kcfg st t hk]
  split
  · simp only [List.cons_append, List.nil_append, joinChunks_cons, code_plain t (by simp [hk]),
      needsSpace_head t.data [10] 10 rfl (by decide) (by decide) (by decide)]
    rfl
  · rfl

/-! ### fusable pairs (the definition of `C01.FusablePair`, restated here) -/

def wordLikeL (c : Bytes) : Bool :=
  (c.head?.map isIdentChar).getD false || (c.head? == some 46 && ((c.drop 1).head?.map isDigit).getD false)

def fusable (a b : Bytes) : Bool :=
  !needsSpace a b && !(wordLikeL a && wordLikeL b) &&
  (Spec.Lex.longestPrefixIn Spec.Lex.symbolSet (a ++ b) > a.length ||
   (a == [46] && (b.head?.map isDigit).getD false) ||
   ([47, 47].isPrefixOf (a ++ b) && a.length < 2) ||
   (a.getLast? == some 58 && b.head? == some 58) ||
   (a.getLast? == some 91 && b.head? == some 61))

/-- the symbol set is closed under extending a symbol by one byte towards a longer symbol -/
theorem symLits_closed : (symLits.all fun l => symLits.all fun x =>
    !(x.isPrefixOf l && decide (x.length < l.length)) || symLits.contains (l.take (x.length + 1))) = true := by
  decide +kernel

theorem symLits_not_wordLike : (symLits.all fun x => !wordLikeL x) = true := by decide +kernel

theorem sym_ext_mem (x l : Bytes) (c : UInt8) (hx : x ∈ symLits) (hl : l ∈ symLits) (hp : x ++ [c] <+: l) :
    x ++ [c] ∈ symLits := by
  have h := List.all_eq_true.mp (List.all_eq_true.mp symLits_closed l hl) x hx
  have hpx : x.isPrefixOf l = true := List.isPrefixOf_iff_prefix.mpr ((List.prefix_append x [c]).trans hp)
  have hlen : x.length < l.length := by have := hp.length_le; simp at this; omega
  have htk : l.take (x.length + 1) = x ++ [c] := by
    have := List.prefix_iff_eq_take.mp hp
    simp at this; exact this.symm
  simpa [hpx, hlen, htk] using h

/-! ### `Next`: what may follow the text of a token in the output -/

/-- shape of the text written for a significant token of kind `k` -/
def CodeHead (k : Kind) (c : Bytes) : Prop :=
  match k with
  | .name => c = [63] ∨ NameLike c
  | .keyword => c ∈ kws
  | .number => NumOK c
  | .symbol => c ∈ symLits
  | .string => ∃ h t, c = h :: t ∧ (h = 34 ∨ h = 39 ∨ h = 91)
  | .label => ∃ t, c = 58 :: 58 :: t
  | _ => False

def SymOrNum (k : Kind) : Prop := k = .symbol ∨ k = .number

theorem code_symOrNum (t : Tok) (h : SymOrNum t.kind) : t.code = t.data :=
  code_plain t (by rcases h with h | h <;> simp [h])

/-- the text `z` that follows the chunk `x` of a token of kind `ka`: nothing, a separator, or the text `c` of a token
of kind `kb` that the writer did not separate from `x` -/
inductive Next (x : Bytes) (ka : Kind) (lastNKN' : Bool) (z : Bytes) : Prop
  | sep (h : ∀ c, z.head? = some c → c = 32 ∨ c = 10)
  | tok (kb : Kind) (c z' : Bytes) (hz : z = c ++ z') (hc : CodeHead kb c) (hns : needsSpace x c = false)
      (hnkn : ¬(lastNKN' = true ∧ (kb = .name ∨ kb = .keyword ∨ kb = .number)))
      (hfus : SymOrNum ka → SymOrNum kb → fusable x c = false)

theorem numOK_head (x : Bytes) (hx : NumOK x) :
    ∃ h t, x = h :: t ∧ (isDigit h = true ∨ (h = 46 ∧ ∃ d t', t = d :: t' ∧ isDigit d = true)) := by
  obtain ⟨hne, r, hm⟩ := hx
  have hnum := matchOne_number_inv _ _ hm
  obtain ⟨h, t, rfl⟩ := List.exists_cons_of_ne_nil hne
  refine ⟨h, t, rfl, (num_head h _ _ hnum).imp_right ?_⟩
  rintro rfl
  refine ⟨rfl, ?_⟩
  simp only [List.cons_append, candsNum, numMatchers, List.map_cons, List.map_nil, firstSome, mRadix_ne (show (46 : UInt8) ≠ 48 by decide),
    mRadixFrac_ne (show (46 : UInt8) ≠ 48 by decide), mDecimal_ne (show isDigit 46 = false by decide)] at hnum
  cases hdd : mDotDecimal (46 :: (t ++ r)) with
  | none => rw [hdd] at hnum; simp [firstSome] at hnum
  | some n =>
    rw [hdd] at hnum
    simp only [firstSome, Option.some.injEq, Prod.mk.injEq, true_and] at hnum
    -- a numeral beginning with `.` has a digit next, and that digit is inside `x`: the match has length ≥ 2
    obtain ⟨hn, d, r', hdr, hdg⟩ := mDotDecimal_some hdd
    cases t with
    | nil => simp at hnum; omega
    | cons d' t' =>
      obtain ⟨hd', -⟩ := List.cons.inj (List.cons.inj hdr).2
      exact ⟨d', t', rfl, hd' ▸ hdg⟩

theorem num_needsSpace (x cur : Bytes) (hx : NumOK x) (hc : cur.head? = some 46) : needsSpace x cur = true := by
  obtain ⟨h, t, rfl, hh⟩ := numOK_head x hx
  unfold needsSpace
  rw [hc]
  have : ∃ l, (h :: t).getLast? = some l := ⟨(h :: t).getLast (by simp), List.getLast?_eq_some_getLast (by simp)⟩
  obtain ⟨l, hl⟩ := this
  rw [hl]
  rcases hh with hh | ⟨rfl, d, t', rfl, hd⟩
  · simp [hh]
  · simp [hd]

def startOf : Kind → UInt8 → Bool
  | .name, h => h == 63 || isIdentStart h
  | .keyword, h => isIdentStart h
  | .number, h => isDigit h || h == 46
  | .symbol, h => symStart h
  | .string, h => h == 34 || h == 39 || h == 91
  | .label, h => h == 58
  | _, _ => false

theorem codeHead_head (kb : Kind) (c : Bytes) (hc : CodeHead kb c) :
    ∃ h t, c = h :: t ∧ startOf kb h = true ∧ (kb = .label → t.head? = some 58) := by
  cases kb <;> simp only [CodeHead] at hc <;> try (exact absurd hc id)
  · obtain ⟨h, t, rfl, hh⟩ := hc
    exact ⟨h, t, rfl, by simpa [startOf, or_assoc] using hh, nofun⟩
  · obtain ⟨h, t, rfl, hh⟩ := numOK_head c hc
    exact ⟨h, t, rfl, by simpa [startOf] using hh.imp_right And.left, nofun⟩
  · rcases hc with rfl | hc
    · exact ⟨63, [], rfl, rfl, nofun⟩
    · obtain ⟨h, t, rfl⟩ := List.exists_cons_of_ne_nil hc.ne
      exact ⟨h, t, rfl, by simp [startOf, hc.start h rfl], nofun⟩
  · obtain ⟨t, rfl⟩ := hc
    exact ⟨58, 58 :: t, rfl, rfl, fun _ => rfl⟩
  · obtain ⟨h, t, rfl⟩ := List.exists_cons_of_ne_nil (kw_idLike c hc).ne
    exact ⟨h, t, rfl, (kw_idLike _ hc).start h rfl, nofun⟩
  · obtain ⟨h, t, rfl, hh⟩ := symbolSet_head c hc
    exact ⟨h, t, rfl, hh, nofun⟩

theorem startOf_other (kb : Kind) (h : UInt8) (hs : startOf kb h = true)
    (hk : ¬(kb = .name ∨ kb = .keyword ∨ kb = .number)) : isIdentChar h = false := by
  cases kb <;> simp [startOf] at hs hk
  · rcases hs with (rfl | rfl) | rfl <;> decide
  · subst hs; decide
  · exact (symHead_facts h hs).2.2.2.2.2.2.2.2.1

theorem startOf_not_space (kb : Kind) (h : UInt8) (hs : startOf kb h = true) : h ≠ 32 ∧ h ≠ 9 := by
  have hid : isIdentStart h = true → h ≠ 32 ∧ h ≠ 9 := fun hi =>
    ⟨(identStart_facts h hi).2.2.1, (identStart_facts h hi).2.2.2.1⟩
  cases kb <;> simp [startOf] at hs
  · rcases hs with (rfl | rfl) | rfl <;> decide
  · exact ⟨(digit_or_dot_facts h hs).2.2.1, (digit_or_dot_facts h hs).2.2.2.1⟩
  · rcases hs with rfl | hs
    · decide
    · exact hid hs
  · subst hs; decide
  · exact hid hs
  · exact ⟨(symHead_facts h hs).1, (symHead_facts h hs).2.1⟩

theorem next_term (x : Bytes) (ka : Kind) (z : Bytes) (h : Next x ka true z) :
    TermIdent z ∧ (NumOK x → TermNum z) := by
  suffices ∀ c, z.head? = some c → isIdentChar c = false ∧ (NumOK x → c ≠ 46) from
    ⟨fun c hc => (this c hc).1, fun hx c hc => ⟨(this c hc).1, (this c hc).2 hx⟩⟩
  intro c hc
  cases h with
  | sep h => rcases h c hc with rfl | rfl <;> exact ⟨by decide, fun _ => by decide⟩
  | tok kb cb z' hz hcb hns hnkn hfus =>
    obtain ⟨hd, t, rfl, hst, -⟩ := codeHead_head kb cb hcb
    subst hz
    simp only [List.cons_append, List.head?_cons, Option.some.injEq] at hc
    subst hc
    refine ⟨startOf_other kb hd hst (fun hk => hnkn ⟨rfl, hk⟩), fun hx h46 => ?_⟩
    subst h46
    rw [num_needsSpace x _ hx rfl] at hns; cases hns

/-- bytes inside a symbol after its first byte are no separators and not the first byte of a name, keyword, string or
label -/
theorem symCont_facts : (symLits.all fun y => (y.drop 1).all fun b =>
    !isIdentStart b && b != 63 && b != 34 && b != 39 && b != 91 && b != 58 && b != 32 && b != 10) = true := by
  decide +kernel

theorem symNext_sep (x : Bytes) (hx : x ∈ symLits) (c : UInt8) (hc : c = 32 ∨ c = 10) : SymNext x c := by
  refine ⟨fun _ => ?_, fun _ => ?_, fun _ => ?_, fun _ => ?_, fun l hl hp => ?_⟩
  iterate 4 rcases hc with rfl | rfl <;> decide
  obtain ⟨a, u, rfl, -⟩ := symbolSet_head x hx
  obtain ⟨r, rfl⟩ := hp
  have := List.all_eq_true.mp (List.all_eq_true.mp symCont_facts _ hl) c (by simp)
  rcases hc with rfl | rfl <;> simp at this

/-- the next token's first byte alone makes `x` and that token fuse -/
def fusB (x : Bytes) (c : UInt8) : Bool :=
  symLits.contains (x ++ [c]) || (x == [46] && isDigit c) || (x == [47] && c == 47) ||
  (x.getLast? == some 58 && c == 58) || (x.getLast? == some 91 && c == 61)

/-- a byte that begins no name, keyword, string or label -/
def symOrNumOnly (c : UInt8) : Bool := !isIdentStart c && c != 63 && c != 34 && c != 39 && c != 91 && c != 58

/-- after a symbol `x`, whether the pair fuses is decided by the first byte of what follows -/
theorem fusable_sym (x : Bytes) (c : UInt8) (t : Bytes) (hx : x ∈ symLits) :
    fusable x (c :: t) = (!needsSpace x (c :: t) && fusB x c) := by
  have hw : wordLikeL x = false := by simpa using List.all_eq_true.mp symLits_not_wordLike x hx
  -- a symbol reaches beyond `x` exactly when `x ++ [c]` is a symbol
  have h1 : decide (Spec.Lex.longestPrefixIn Spec.Lex.symbolSet (x ++ c :: t) > x.length) =
      symLits.contains (x ++ [c]) := by
    cases hm : symLits.contains (x ++ [c]) with
    | true =>
      have := longest_ge (lits := Spec.Lex.symbolSet) (s := x ++ c :: t) (List.contains_iff_mem.mp hm)
        (List.isPrefixOf_iff_prefix.mpr ⟨t, by simp⟩)
      simp at this ⊢; omega
    | false =>
      refine longest_beyond _ x (c :: t) fun c' m hl hp => ?_
      obtain rfl : c' = c := by obtain ⟨r, hr⟩ := hp; simp at hr; exact hr.1
      have := sym_ext_mem x _ c' hx hl ⟨m, by simp⟩
      rw [← List.contains_iff_mem, hm] at this; cases this
  have h3 : ([47, 47].isPrefixOf (x ++ c :: t) && decide (x.length < 2)) = (x == [47] && c == 47) := by
    obtain ⟨a, u, rfl, -⟩ := symbolSet_head x hx
    cases u with
    | nil => simp [List.isPrefixOf, BEq.comm (a := (47 : UInt8))]
    | cons _ _ => simp
  unfold fusable fusB
  rw [hw, h1, h3]
  simp

theorem startOf_symOrNum (kb : Kind) (c : UInt8) (hs : startOf kb c = true) (h : symOrNumOnly c = true) : SymOrNum kb := by
  simp only [symOrNumOnly, Bool.and_eq_true, Bool.not_eq_true', bne_iff_ne, ne_eq] at h
  obtain ⟨⟨⟨⟨⟨k1, k2⟩, k3⟩, k4⟩, k5⟩, k6⟩ := h
  cases kb <;> simp [startOf, k1, k2, k3, k4, k5, k6] at hs
  · exact Or.inr rfl
  · exact Or.inl rfl

theorem digit_symOrNumOnly (c : UInt8) (h : isDigit c = true) : symOrNumOnly c = true := by
  simp only [symOrNumOnly, (digit_facts c h).1, Bool.not_false, Bool.true_and, Bool.and_eq_true, bne_iff_ne, ne_eq]
  refine ⟨⟨⟨⟨?_, ?_⟩, ?_⟩, ?_⟩, ?_⟩ <;> (rintro rfl; revert h; decide)

theorem symNext_of (x : Bytes) (c : UInt8) (t : Bytes) (hx : x ∈ symLits) (hns : needsSpace x (c :: t) = false)
    (hf : fusB x c = true → symOrNumOnly c = true → False) : SymNext x c := by
  refine ⟨fun h1 hc => ?_, fun hx' hc => ?_, fun hx' => ?_, fun hx' => ⟨fun hc => ?_, fun hc => ?_⟩, fun l hl hp => ?_⟩
  · subst hc
    rw [(needsSpace_covers x _).1 ⟨h1, rfl⟩] at hns; cases hns
  · subst hx' hc
    exact hf (by simp [fusB]) (by decide)
  · subst hx'
    cases hd : isDigit c with
    | false => rfl
    | true => exact (hf (by simp [fusB, hd]) (digit_symOrNumOnly c hd)).elim
  · subst hx' hc
    exact hf (by simp [fusB]) (by decide)
  · subst hx' hc
    rw [(needsSpace_covers [91] _).2.1 ⟨rfl, rfl⟩] at hns; cases hns
  · have hmem := sym_ext_mem x l c hx hl hp
    refine hf (by simp [fusB, hmem]) ?_
    have h2 := List.all_eq_true.mp (List.all_eq_true.mp symCont_facts _ hmem)
    obtain ⟨a, u, rfl, -⟩ := symbolSet_head x hx
    have := h2 c (by simp)
    simp only [Bool.and_eq_true] at this
    simpa [symOrNumOnly] using this.1.1

theorem next_sym (x z : Bytes) (b : Bool) (hx : x ∈ symLits) (h : Next x .symbol b z) :
    (∀ c, z.head? = some c → SymNext x c) ∧
    (x = [58] → z.head? = some 58 → ∃ z', z = 58 :: 58 :: z') := by
  cases h with
  | sep h => exact ⟨fun c hc => symNext_sep x hx c (h c hc), fun _ hc => by rcases h 58 hc with h | h <;> cases h⟩
  | tok kb cb z' hz hcb hns hnkn hfus =>
    obtain ⟨hd, t, rfl, hst, hlab⟩ := codeHead_head kb cb hcb
    subst hz
    -- a fusing head byte that only a symbol or number can begin contradicts the no-fusable-pair hypothesis
    have nofus : fusB x hd = true → SymOrNum kb → False := fun hf hs => by
      have := hfus (Or.inl rfl) hs
      rw [fusable_sym x hd t hx, hns, hf] at this; cases this
    constructor
    · intro c hc
      simp only [List.cons_append, List.head?_cons, Option.some.injEq] at hc
      subst hc
      exact symNext_of x hd t hx hns fun hf hs => nofus hf (startOf_symOrNum kb hd hst hs)
    · rintro rfl hz58
      simp only [List.cons_append, List.head?_cons, Option.some.injEq] at hz58
      subst hz58
      -- after `:` a `:` begins a label (then `::` follows) or a symbol (then the pair is fusable)
      cases kb <;> simp [startOf, isIdentStart, isDigit] at hst
      · obtain ⟨d, t', rfl⟩ : ∃ d t', t = d :: t' := by cases t <;> simp at hlab ⊢
        obtain rfl : d = 58 := by simpa using hlab
        exact ⟨t' ++ z', by simp⟩
      · exact (nofus (by simp [fusB]) (Or.inl rfl)).elim

theorem CodeHead.of_wf (a : Tok) (hwf : WF a) (htr : a.trivia = false) : CodeHead a.kind a.code := by
  cases hk : a.kind with
  | space => simp [Tok.trivia, hk] at htr
  | newline => simp [Tok.trivia, hk] at htr
  | comment => simp [Tok.trivia, hk] at htr
  | name => rw [code_plain a (by simp [hk])]; exact hwf.name hk
  | keyword => rw [code_plain a (by simp [hk])]; exact hwf.keyword hk
  | number => rw [code_plain a (by simp [hk])]; exact hwf.number hk
  | symbol => rw [code_plain a (by simp [hk])]; exact hwf.symbol hk
  | label =>
    rw [code_plain a (by simp [hk]), (labelOK_inner a.data (hwf.label hk)).1]
    exact ⟨_, rfl⟩
  | string =>
    simp only [CodeHead, Tok.code, hk, if_true]
    rcases hwf.str hk with ⟨hm, q, hq, hq'⟩ | ⟨-, n, hm, -⟩
    · rw [hm, hq]
      exact ⟨q, _, rfl, by rcases hq' with h | h <;> simp [h]⟩
    · rw [hm]
      exact ⟨91, _, rfl, by simp⟩

theorem specRun_tok (a : Tok) (z : Bytes) (sigs : List Core) (b : Bool) (hwf : WF a) (htr : a.trivia = false)
    (hN : Next a.code a.kind b z) (hb : nkn a = true → b = true) (hz : SpecRun z sigs) :
    SpecRun (a.code ++ z) (core a :: sigs) := by
  by_cases hstr : a.kind = .string
  · simp only [core, Tok.code, hstr, if_true]
    rcases hwf.str hstr with ⟨hm, q, hq, hq'⟩ | ⟨hq, n, hm, hok⟩
    · rw [hm, hq]
      exact SpecRun.sig (by simp) (lexOne_quoted q a.data z hq') rfl hz
    · rw [hm, hq]
      exact SpecRun.sig (by simp) (lexOne_long n a.data z hok) rfl hz
  have hpl := hwf.plain hstr
  have hcore : core a = (a.kind, a.data, none, none) := by simp [core, hpl.1, hpl.2]
  rw [code_plain a hstr] at hN ⊢
  rw [hcore]
  have hT : nkn a = true → TermIdent z ∧ (NumOK a.data → TermNum z) := fun hn => by
    have := hb hn; subst this; exact next_term _ _ _ hN
  cases hk : a.kind with
  | space => simp [Tok.trivia, hk] at htr
  | newline => simp [Tok.trivia, hk] at htr
  | comment => simp [Tok.trivia, hk] at htr
  | string => exact absurd hk hstr
  | name =>
    rcases hwf.name hk with hx | hx
    · rw [hx]; exact SpecRun.sig (by simp) (lexOne_qmark z) rfl hz
    · have := SpecRun.sig hx.ne (lexOne_word _ z hx.idLike (hT (by simp [nkn, hk])).1) (by simp [Tok.trivia, hx.notKw]) hz
      simpa [core, hx.notKw] using this
  | keyword =>
    have hx := hwf.keyword hk
    have := SpecRun.sig (kw_idLike _ hx).ne (lexOne_word _ z (kw_idLike _ hx) (hT (by simp [nkn, hk])).1)
      (by simp [Tok.trivia, hx]) hz
    simpa [core, hx] using this
  | number =>
    obtain ⟨hne, r, hm⟩ := hwf.number hk
    exact SpecRun.sig hne (lexOne_number a.data r z hne ((hT (by simp [nkn, hk])).2 (hwf.number hk)) hm) rfl hz
  | symbol =>
    have hx := hwf.symbol hk
    rw [hk] at hN
    obtain ⟨hB, hL⟩ := next_sym a.data z b hx hN
    exact SpecRun.sig (symbolSet_ne _ hx) (lexOne_sym a.data z hx hB hL) rfl hz
  | label =>
    obtain ⟨hd, hid⟩ := labelOK_inner a.data (hwf.label hk)
    rw [hd]
    exact SpecRun.sig (by simp) (lexOne_label _ z hid) rfl hz

/-! ### what the writer puts after a token satisfies `Next` -/

theorem out_next (x : Bytes) (ka : Kind) : ∀ (rest : List Tok) (st : MinSt),
    st.seenCode = true → (st.lastNL = true → st.lastNKN = false) → (∀ t ∈ rest, WF t) →
    (∀ b bs, sigToks rest = b :: bs → SymOrNum ka → SymOrNum b.kind → fusable x b.data = false) →
    Next x ka st.lastNKN (out kcfg st x rest) := by
  intro rest
  induction rest with
  | nil => intro st _ _ _ _; exact Next.sep nofun
  | cons t rest ih =>
    intro st hseen hJ hwf hfus
    have hwf' : ∀ t' ∈ rest, WF t' := fun t' h => hwf t' (List.mem_cons_of_mem _ h)
    rcases trivia_cases t with htr | ⟨htr, hk⟩
    · have hwt := hwf t (by simp)
      rw [out_sig st x t rest htr hwt.label]
      by_cases hsp : ((st.lastNKN && nkn t) || needsSpace x t.code) = true
      · rw [if_pos hsp]; exact Next.sep fun c hc => Or.inl (Option.some.inj hc).symm
      · rw [if_neg hsp]
        simp only [Bool.or_eq_true, not_or, Bool.not_eq_true] at hsp
        refine Next.tok t.kind t.code (out kcfg (minStep kcfg st t).1 t.code rest) (by simp)
          (CodeHead.of_wf t hwt htr) hsp.2 ?_ ?_
        · rintro ⟨h1, h2⟩
          have : nkn t = true := by rcases h2 with h | h | h <;> simp [nkn, h]
          simp [h1, this] at hsp
        · intro hsa hsb
          rw [code_symOrNum t hsb]
          exact hfus t (sigToks rest) (sigToks_cons_sig t rest htr) hsa hsb
    · rw [sigToks_cons_triv t rest htr] at hfus
      rcases hk with hk | hk | hk
      · rw [out_space st x t rest hk]
        exact ih st hseen hJ hwf' hfus
      · rw [out_newline st x t rest hk]
        cases hnl : st.lastNL with
        | true =>
          rw [hJ hnl]
          exact ih { st with lastNKN := false, lastNL := true } hseen (fun _ => rfl) hwf' hfus
        | false => exact Next.sep fun c hc => Or.inr (Option.some.inj hc).symm
      · -- a comment is dropped: code has been seen
        rw [out_comment st x t rest hk, if_neg (by simp [hseen])]
        exact ih st hseen hJ hwf' hfus

theorem SpecRun.sp (y : Bytes) (sigs : List Core) (b : Bool) (hy : ∀ c, y.head? = some c → c ≠ 32 ∧ c ≠ 9)
    (h : SpecRun y sigs) : SpecRun ((if b then [32] else []) ++ y) sigs := by
  cases b with
  | false => simpa using h
  | true => exact SpecRun.triv (by simp) (lexOne_space y hy) rfl h

theorem SpecRun.nl (z : Bytes) (sigs : List Core) (h : SpecRun z sigs) : SpecRun ([10] ++ z) sigs :=
  SpecRun.triv (by simp) (lexOne_newline z) rfl h

theorem SpecRun.comment (d z : Bytes) (sigs : List Core) (hd : CommentOK d) (h : SpecRun z sigs) :
    SpecRun (d ++ ([10] ++ z)) sigs ∧ ∀ c, (d ++ ([10] ++ z)).head? = some c → c ≠ 32 ∧ c ≠ 9 := by
  have hnl := SpecRun.nl z sigs h
  rcases hd with ⟨w, rfl, hw⟩ | ⟨c, body, rfl, hc, hb, hpre⟩
  · exact ⟨SpecRun.triv (by simp) (lexOne_block w _ hw) rfl hnl,
      fun c hc => by simp at hc; subst hc; exact ⟨by decide, by decide⟩⟩
  · refine ⟨SpecRun.triv (by simp) (lexOne_lineComment c body z hc hb hpre) rfl hnl, fun c' hc' => ?_⟩
    simp at hc'; subst hc'
    rcases hc with rfl | rfl <;> exact ⟨by decide, by decide⟩

theorem codeHead_not_space (kb : Kind) (c z : Bytes) (hc : CodeHead kb c) :
    ∀ b, (c ++ z).head? = some b → b ≠ 32 ∧ b ≠ 9 := by
  obtain ⟨h, t, rfl, hst, -⟩ := codeHead_head kb c hc
  intro b hb
  obtain rfl : h = b := by simpa using hb
  exact startOf_not_space kb h hst

def FusFree (l : List Tok) : Prop :=
  ∀ i a b, l[i]? = some a → l[i + 1]? = some b → SymOrNum a.kind → SymOrNum b.kind → fusable a.data b.data = false

/-- the text the name-keeping writer writes from any reachable state lexes to the tokens -/
theorem main_run : ∀ (toks : List Tok) (st : MinSt) (prev : Bytes),
    (∀ t ∈ toks, WF t) → FusFree (sigToks toks) →
    SpecRun (out kcfg st prev toks) ((sigToks toks).map core) := by
  intro toks
  induction toks with
  | nil => intro _ _ _ _; exact SpecRun.nil
  | cons t rest ih =>
    intro st prev hwf hff
    have hwf' : ∀ t' ∈ rest, WF t' := fun t' h => hwf t' (List.mem_cons_of_mem _ h)
    rcases trivia_cases t with htr | ⟨htr, hk⟩
    · -- a significant token: what follows it is harmless (`out_next`), so it reads back (`specRun_tok`)
      have hwt := hwf t (by simp)
      obtain ⟨-, hseen', hnl', hnkn'⟩ := minStep_keep st t htr hwt.label
      rw [sigToks_cons_sig t rest htr] at hff ⊢
      have hIH := ih (minStep kcfg st t).1 t.code hwf' fun i => hff (i + 1)
      have hN := out_next t.code t.kind rest (minStep kcfg st t).1 hseen'
        (fun h => by rw [hnl'] at h; cases h) hwf' (by
          intro b bs hbs hsa hsb
          rw [code_symOrNum t hsa]
          exact hff 0 t b rfl (by rw [hbs]; rfl) hsa hsb)
      rw [out_sig st prev t rest htr hwt.label, List.append_assoc]
      exact SpecRun.sp _ _ _ (codeHead_not_space t.kind t.code _ (CodeHead.of_wf t hwt htr))
        (specRun_tok t _ _ _ hwt htr hN hnkn' hIH)
    · rw [sigToks_cons_triv t rest htr] at hff ⊢
      rcases hk with hk | hk | hk
      · rw [out_space st prev t rest hk]
        exact ih st prev hwf' hff
      · rw [out_newline st prev t rest hk]
        cases st.lastNL with
        | true => exact ih _ prev hwf' hff
        | false => exact SpecRun.nl _ _ (ih _ [10] hwf' hff)
      · rw [out_comment st prev t rest hk]
        split
        · obtain ⟨h1, h2⟩ := SpecRun.comment t.data _ _ ((hwf t (by simp)).comment hk)
            (ih { st with hdr := st.hdr + 1 } [10] hwf' hff)
          rw [List.append_assoc]
          exact SpecRun.sp _ _ _ h2 h1
        · exact ih st prev hwf' hff

end Pico.C01L
