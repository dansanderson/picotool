import PicoVerif.Model.Writers
import PicoVerif.Lemmas.Basic
/-! Helper lemmas for C01 (luamin keeps the program): direct facts about `needsSpace`, `joinChunks`, `minStep` and
`tokenCount`. -/
namespace Pico.C01L
open Pico.Lex Pico.Wr

theorem needsSpace_covers (a b : Bytes) :
    (a.getLast? = some 45 ∧ b.head? = some 45 → needsSpace a b = true) ∧
    (a.getLast? = some 91 ∧ b.head? = some 91 → needsSpace a b = true) ∧
    (a.getLast? = some 46 ∧ b.head? = some 46 → needsSpace a b = true) ∧
    (a ≠ [] → (a.head?.map isDigit).getD false = true ∧ b.head? = some 46 → needsSpace a b = true) := by
  refine ⟨?_, ?_, ?_, ?_⟩
  · rintro ⟨h1, h2⟩; simp [needsSpace, h1, h2]
  · rintro ⟨h1, h2⟩; simp [needsSpace, h1, h2]
  · rintro ⟨h1, h2⟩; simp [needsSpace, h1, h2]
  · intro ha ⟨h1, h2⟩
    obtain ⟨l, hl⟩ : ∃ l, a.getLast? = some l := by
      cases h : a.getLast? with
      | none => simp at h; exact absurd h ha
      | some l => exact ⟨l, rfl⟩
    simp only [needsSpace, hl, h2, h1]
    simp

theorem joined_separated (prev : Bytes) (cs : List Bytes) :
    joinChunks prev cs = (cs.zip (prev :: cs)).flatMap (fun (c, p) => (if needsSpace p c then [32] else []) ++ c) := by
  induction cs generalizing prev with
  | nil => simp [joinChunks]
  | cons c rest ih => simp [joinChunks, ih]

theorem words_separated (cfg : NameCfg) (st : MinSt) (t : Tok) (h : st.lastNKN = true)
    (hk : t.kind = .name ∨ t.kind = .keyword ∨ t.kind = .number) (hs : st.seenCode = true) :
    ∃ st' c, minStep cfg st t = (st', [[32], c]) ∧ st'.lastNKN = true := by
  rcases hk with hk | hk | hk <;> simp [minStep, hs, hk, h]

theorem newline_kept (cfg : NameCfg) (st : MinSt) (t : Tok) (hk : t.kind = .newline) (hs : st.seenCode = true) :
    minStep cfg st t = ({ st with lastNKN := false, lastNL := true }, if st.lastNL then [] else [[10]]) := by
  simp [minStep, hs, hk]

/-- per-token weight of `tokenCount` -/
def tokW (t : Tok) : Nat :=
  if (t.kind == .symbol && (t.data == [58] || t.data == [46] || t.data == [41] || t.data == [93] || t.data == [125]))
       || (t.kind == .keyword && (t.data == "local".toUTF8.toList || t.data == "end".toUTF8.toList)) then 0
  else if t.kind == .number && t.data.contains 101 then 2
  else if !t.trivia then 1 else 0

theorem tokenCount_eq_sum (toks : List Tok) : tokenCount toks = (toks.map tokW).sum := by
  unfold tokenCount
  rw [← Nat.zero_add (List.sum _)]
  generalize 0 = c
  induction toks generalizing c with
  | nil => simp
  | cons t rest ih =>
    simp only [List.foldl_cons, List.map_cons, List.sum_cons, ih]
    generalize (List.map tokW rest).sum = r
    unfold tokW
    repeat' split
    all_goals omega

theorem tokW_trivia (t : Tok) (h : t.trivia = true) : tokW t = 0 := by
  unfold tokW
  simp only [Tok.trivia, Bool.or_eq_true, beq_iff_eq] at h
  rcases h with (h | h) | h <;> simp [h, Tok.trivia]

theorem sum_filter_sig (toks : List Tok) :
    ((toks.filter (fun t => !t.trivia)).map tokW).sum = (toks.map tokW).sum := by
  induction toks with
  | nil => rfl
  | cons t rest ih =>
    by_cases h : t.trivia = true
    · simp [h, ih, tokW_trivia t h]
    · simp [h, ih]

theorem tokW_congr (x y : Tok) (hk : x.kind = y.kind)
    (hd : y.kind ≠ .name → y.kind ≠ .label → x.data = y.data) : tokW x = tokW y := by
  by_cases h1 : y.kind = .name
  · simp [tokW, hk, h1, Tok.trivia]
  · by_cases h2 : y.kind = .label
    · simp [tokW, hk, h2, Tok.trivia]
    · simp [tokW, hk, hd h1 h2, Tok.trivia]

theorem token_count (a b : List Tok)
    (hlen : (a.filter (fun t => !t.trivia)).length = (b.filter (fun t => !t.trivia)).length)
    (h : ∀ i, i < (b.filter (fun t => !t.trivia)).length → ∃ x y,
       (a.filter (fun t => !t.trivia))[i]? = some x ∧ (b.filter (fun t => !t.trivia))[i]? = some y ∧
       x.kind = y.kind ∧ (y.kind ≠ .name → y.kind ≠ .label → x.data = y.data)) :
    tokenCount a = tokenCount b := by
  rw [tokenCount_eq_sum, tokenCount_eq_sum, ← sum_filter_sig a, ← sum_filter_sig b]
  refine congrArg List.sum ((map_eq_iff_index tokW tokW _ _).mpr ⟨hlen, fun i hi => ?_⟩)
  obtain ⟨x, y, hx, hy, hk, hd⟩ := h i hi
  exact ⟨x, y, hx, hy, tokW_congr x y hk hd⟩

end Pico.C01L
