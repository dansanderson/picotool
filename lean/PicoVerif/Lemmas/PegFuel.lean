import PicoVerif.Model.Peg
/-! Fuel of the grammar interpreter: every error an inner run returns is returned by the outer run, so a result that is not the
fuel error was computed without any inner run hitting the fuel limit — and is then the result for every larger fuel as well. -/
namespace Pico.Peg
open Pico.Lex

theorem run_fuel_succ (gram : Nat → G) (toks : Array Tok) : ∀ fuel,
    (∀ g st, run gram toks fuel g st ≠ .error .fuel → run gram toks (fuel + 1) g st = run gram toks fuel g st) ∧
    (∀ sfx acc st, run.chainLoop gram toks fuel sfx acc st ≠ .error .fuel →
        run.chainLoop gram toks (fuel + 1) sfx acc st = run.chainLoop gram toks fuel sfx acc st) := by
  intro fuel
  induction fuel with
  | zero =>
    constructor
    · intro g st h; exact absurd (by rw [run]) h
    · intro sfx acc st h; exact absurd (by rw [run.chainLoop]) h
  | succ n ih =>
    obtain ⟨ihR, ihC⟩ := ih
    -- `h`: the result at fuel `n + 1` is not the fuel error. Then neither is that of the inner run it starts with (were it,
    -- `h` would rewrite to `.error .fuel ≠ .error .fuel`), so the induction hypothesis applies to it; then along the branch taken.
    constructor
    · intro g st h
      cases g with
      | eps | tok p | prevTokIs p => rw [run, run]
      | nt k => rw [run] at h; rw [run, run]; exact ihR _ _ h
      | hard g | node k g | notAhead g | filterTop ks g =>
        rw [run] at h; rw [run, run, ihR g st (by intro hx; rw [hx] at h; exact h rfl)]
      | fence g =>
        rw [run] at h; rw [run, run]
        generalize ({ st with maxPos := some _ } : PSt) = st0 at h ⊢
        rw [ihR g st0 (by intro hx; rw [hx] at h; exact h rfl)]
      | seq a b =>
        rw [run] at h; rw [run, run, ihR a st (by intro hx; rw [hx] at h; exact h rfl)]
        split at h <;> try rfl
        rw [ihR b _ (by intro hx; rw [hx] at h; exact h rfl)]
      | alt a b =>
        rw [run] at h; rw [run, run, ihR a st (by intro hx; rw [hx] at h; exact h rfl)]
        split at h <;> try rfl
        exact ihR b st h
      | star g =>
        rw [run] at h; rw [run, run, ihR g st (by intro hx; rw [hx] at h; exact h rfl)]
        split at h <;> try rfl
        split at h <;> rename_i hc <;> simp only [hc, ↓reduceIte]
        rw [ihR _ _ (by intro hx; rw [hx] at h; exact h rfl)]
      | chain first suffix =>
        rw [run] at h; rw [run, run, ihR first st (by intro hx; rw [hx] at h; exact h rfl)]
        split at h <;> try rfl
        exact ihC _ _ _ h
    · intro sfx acc st h
      rw [run.chainLoop] at h; rw [run.chainLoop, run.chainLoop, ihR sfx st (by intro hx; rw [hx] at h; exact h rfl)]
      split at h <;> try rfl
      split at h <;> rename_i hc <;> simp only [hc, ↓reduceIte]
      exact ihC _ _ _ h

end Pico.Peg
