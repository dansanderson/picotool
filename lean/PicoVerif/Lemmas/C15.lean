import PicoVerif.Model.P8scii
/-! Why `toP8` inverts `toUnicode`: the decoder recognises the character at the front of a text by its first code
point alone, so it is enough that row `i` carries code `i`, that no spelling is empty and that no two spellings begin
with the same code point. `nodup`, `prefix_free`, `width_well_defined` of `Props/C15.lean` follow from this; the other
table facts feed it. -/
namespace Pico.P8scii

/-- the set `s`, a number read as a bit set, with `c` put in; `none` if `c` was in it already -/
def insertNew (s : Option Nat) (c : Nat) : Option Nat :=
  s.bind fun s => if s.testBit c then none else some (s ||| 2 ^ c)

/-- pairwise distinct numbers, checked in one pass (the kernel computes on the bit sets with its big-number arithmetic) -/
def distinct (l : List Nat) : Bool := (l.foldl insertNew (some 0)).isSome

theorem foldl_insertNew_none (l : List Nat) : l.foldl insertNew none = none := by
  induction l with
  | nil => rfl
  | cons _ _ ih => exact ih

theorem pairwise_of_insertNew : ∀ (l : List Nat) (s : Nat), (l.foldl insertNew (some s)).isSome = true →
    l.Pairwise (· ≠ ·) ∧ ∀ c ∈ l, s.testBit c = false
  | [], _, _ => ⟨.nil, nofun⟩
  | a :: l, s, h => by
    rw [List.foldl_cons, insertNew, Option.bind_some] at h
    split at h
    · rw [foldl_insertNew_none] at h; cases h
    · next ha =>
      obtain ⟨hp, hs⟩ := pairwise_of_insertNew l _ h
      simp only [Nat.testBit_or, Nat.testBit_two_pow, Bool.or_eq_false_iff, decide_eq_false_iff_not] at hs
      exact ⟨List.pairwise_cons.mpr ⟨fun c hc => (hs c hc).2, hp⟩,
        List.forall_mem_cons.mpr ⟨by simpa using ha, fun c hc => (hs c hc).1⟩⟩

theorem eq_of_distinct_map {f : α → Nat} {l : List α} (h : distinct (l.map f) = true) {a b : α}
    (ha : a ∈ l) (hb : b ∈ l) (hab : f a = f b) : a = b := by
  have hp := List.pairwise_map.mp (pairwise_of_insertNew _ 0 h).1
  exact List.Pairwise.forall_of_forall_of_flip (R := fun a b => f a = f b → a = b) (fun _ _ _ => rfl)
    (hp.imp fun hne e => absurd e hne) (hp.imp fun hne e => absurd e.symm hne) ha hb hab

theorem toUnicode_append (tbl : Table) (a b : Bytes) :
    toUnicode tbl (a ++ b) = toUnicode tbl a ++ toUnicode tbl b := List.flatMap_append

theorem toUnicode_flatten (tbl : Table) (ls : List Bytes) :
    toUnicode tbl ls.flatten = (ls.map (toUnicode tbl)).flatten := by
  rw [toUnicode, List.flatten_eq_flatMap, List.flatMap_assoc]
  rfl

theorem spelling_of_lt {tbl : Table} {i : Nat} (hi : i < tbl.length) : spelling tbl i = tbl[i].2 := by
  simp [spelling, hi]

structure Decodable (tbl : Table) : Prop where
  codes : tbl.map (·.1) = List.range tbl.length
  nonempty : ∀ e ∈ tbl, e.2 ≠ []
  heads : distinct (tbl.map (·.2.headD 0)) = true

namespace Decodable
variable {tbl : Table} (h : Decodable tbl)
include h

theorem row_mem {i : Nat} (hi : i < tbl.length) : (i, spelling tbl i) ∈ tbl := by
  have := congrArg (·[i]?) h.codes
  simp only [List.getElem?_map, List.getElem?_eq_getElem hi, Option.map_some, List.getElem?_range hi,
    Option.some.injEq] at this
  exact (Prod.ext this (spelling_of_lt hi).symm : tbl[i] = (i, spelling tbl i)) ▸ List.getElem_mem hi

theorem spelling_all (p : Nat → List Nat → Bool) (hp : tbl.all (fun e => p e.1 e.2) = true) {i : Nat}
    (hi : i < tbl.length) : p i (spelling tbl i) = true :=
  List.all_eq_true.mp hp _ (h.row_mem hi)

theorem eq_of_head {e e' : Nat × List Nat} (he : e ∈ tbl) (he' : e' ∈ tbl) (hh : e.2.head? = e'.2.head?) : e = e' :=
  eq_of_distinct_map h.heads he he' (by simp only [List.headD_eq_head?_getD, hh])

theorem eq_of_prefix {e e' : Nat × List Nat} (he : e ∈ tbl) (he' : e' ∈ tbl) (hp : e.2 <+: e'.2) : e = e' := by
  obtain ⟨t, ht⟩ := hp
  refine h.eq_of_head he he' ?_
  cases h2 : e.2 with
  | nil => exact absurd h2 (h.nonempty e he)
  | cons c cs => rw [← ht, h2]; rfl

theorem spellings_nodup : (tbl.map (·.2)).Nodup :=
  List.pairwise_map.mpr ((List.pairwise_map.mp (pairwise_of_insertNew _ 0 h.heads).1).imp
    fun hne e => hne (congrArg (·.headD 0) e))

/-- searching the table for a spelling that begins with `c` finds the one row that has such a spelling -/
theorem find_head {i c : Nat} {cs : List Nat} (hi : i < tbl.length) (hs : spelling tbl i = c :: cs)
    {p : Nat × List Nat → Bool} (hp : p (i, c :: cs) = true) (hc : ∀ e, p e = true → e.2.head? = some c) :
    tbl.reverse.find? p = some (i, c :: cs) := by
  have hmem : (i, c :: cs) ∈ tbl := hs ▸ h.row_mem hi
  cases hf : tbl.reverse.find? p with
  | none => exact absurd hp (List.find?_eq_none.mp hf _ (List.mem_reverse.mpr hmem))
  | some e =>
    rw [h.eq_of_head (List.mem_reverse.mp (List.mem_of_find?_eq_some hf)) hmem (hc e (List.find?_some hf))]

theorem lookup_spelling {i c : Nat} {cs : List Nat} (hi : i < tbl.length) (hs : spelling tbl i = c :: cs) :
    lookupWidth tbl c = some (c :: cs).length ∧ lookupCode tbl (c :: cs) = some i := by
  constructor
  · rw [lookupWidth, h.find_head hi hs (by simp) (fun e he => by simpa using he)]; rfl
  · rw [lookupCode, h.find_head hi hs (by simp) (fun e he => by simp at he; simp [he])]; rfl

theorem spelling_ne_nil {i : Nat} (hi : i < tbl.length) : spelling tbl i ≠ [] :=
  h.nonempty _ (h.row_mem hi)

theorem toP8F_spelling {i : Nat} (hi : i < tbl.length) (rest : List Nat) (fuel : Nat) :
    toP8F tbl (fuel + 1) (spelling tbl i ++ rest) = (toP8F tbl fuel rest).map (i :: ·) := by
  cases hs : spelling tbl i with
  | nil => exact absurd hs (h.spelling_ne_nil hi)
  | cons c cs =>
    obtain ⟨hw, hcode⟩ := h.lookup_spelling hi hs
    simp only [List.cons_append, toP8F, hw]
    rw [← List.cons_append, List.take_left' rfl, List.drop_left' rfl, hcode]
    exact if_neg (by simp)

theorem toP8F_toUnicode (bs : Bytes) (hb : ∀ b ∈ bs, b.toNat < tbl.length) (fuel : Nat) (hf : bs.length < fuel) :
    toP8F tbl fuel (toUnicode tbl bs) = some (bs.map (·.toNat)) := by
  obtain ⟨f, rfl⟩ : ∃ f, fuel = f + 1 := ⟨fuel - 1, by omega⟩
  induction bs generalizing f with
  | nil => rfl
  | cons b bs ih =>
    rw [List.length_cons] at hf
    obtain ⟨g, rfl⟩ : ∃ g, f = g + 1 := ⟨f - 1, by omega⟩
    rw [toUnicode, List.flatMap_cons, h.toP8F_spelling (hb b List.mem_cons_self)]
    exact congrArg (Option.map _) (ih (fun x hx => hb x (List.mem_cons_of_mem _ hx)) g (by omega))

theorem length_le_toUnicode (bs : Bytes) (hb : ∀ b ∈ bs, b.toNat < tbl.length) :
    bs.length ≤ (toUnicode tbl bs).length := by
  induction bs with
  | nil => simp
  | cons b bs ih =>
    have := List.length_pos_iff.mpr (h.spelling_ne_nil (hb b List.mem_cons_self))
    have := ih (fun x hx => hb x (List.mem_cons_of_mem _ hx))
    simp only [toUnicode, List.flatMap_cons, List.length_append, List.length_cons] at *
    omega

theorem toP8_toUnicode (bs : Bytes) (hb : ∀ b ∈ bs, b.toNat < tbl.length) :
    toP8 tbl (toUnicode tbl bs) = some (bs.map (·.toNat)) :=
  h.toP8F_toUnicode bs hb _ (Nat.lt_succ_of_le (h.length_le_toUnicode bs hb))

end Decodable
end Pico.P8scii
