import PicoVerif.Model.Compress
import PicoVerif.Spec.Stream
import PicoVerif.Lemmas.Bits
/-! C05. `compressLoop_decodes` is the producer's invariant: what is emitted so far decodes to the text read so far.
`decodeLoop_sim`: picotool's decoder loop simulates the reference decoder, its output cut at `n` bytes. -/
namespace Pico.Compress
open Pico.Spec

theorem charTable_length : Gen.charTable.length = 60 := by decide

theorem tableLen_eq : tableLen = 60 := charTable_length

theorem maxHistLen_eq : maxHistLen = 3120 := by decide

/-- the fold of `literalIndex` over any table, from position `k` on with `acc` in hand, returns `acc` or a
position of `b` -/
theorem lastIndex_spec (b : UInt8) : ∀ (l : List UInt8) (k acc : Nat),
    (l.zipIdx k).foldl (fun acc (c, i) => if i ≥ 1 ∧ c = b then i else acc) acc = acc ∨
    ∃ j, (l.zipIdx k).foldl (fun acc (c, i) => if i ≥ 1 ∧ c = b then i else acc) acc = k + j ∧ l[j]? = some b
  | [], _, _ => .inl rfl
  | c :: l, k, acc => by
    rw [List.zipIdx_cons, List.foldl_cons]
    rcases lastIndex_spec b l (k + 1) (if k ≥ 1 ∧ c = b then k else acc) with h | ⟨j, h, hj⟩
    · rw [h]
      split
      · next hc => exact .inr ⟨0, rfl, by rw [hc.2]; rfl⟩
      · exact .inl rfl
    · exact .inr ⟨j + 1, by rw [h]; omega, hj⟩

theorem literalIndex_spec (b : UInt8) :
    literalIndex b < 60 ∧ (literalIndex b ≠ 0 → Gen.charTable[literalIndex b]? = some b) := by
  rcases lastIndex_spec b Gen.charTable 0 0 with h | ⟨j, h, hj⟩
  · rw [literalIndex, h]; exact ⟨by decide, fun h0 => absurd rfl h0⟩
  · rw [literalIndex, h, Nat.zero_add]
    exact ⟨(List.getElem?_eq_some_iff.mp hj).1, fun _ => hj⟩

theorem matchLen_spec (dat : Array UInt8) (i pos maxLen fuel k : Nat) (h1 : k ≤ maxLen) (h2 : i + k ≤ pos)
    (h3 : ∀ j, j < k → dat.getD (i + j) 0 = dat.getD (pos + j) 0) :
    matchLen dat i pos maxLen fuel k ≤ maxLen ∧ i + matchLen dat i pos maxLen fuel k ≤ pos ∧
    (∀ j, j < matchLen dat i pos maxLen fuel k → dat.getD (i + j) 0 = dat.getD (pos + j) 0) := by
  fun_induction matchLen dat i pos maxLen fuel k with
  | case1 k => exact ⟨h1, h2, h3⟩
  | case2 _ k hc ih =>
    refine ih (by omega) (by omega) fun j hj => ?_
    by_cases hjk : j = k
    · exact hjk ▸ hc.2.2
    · exact h3 j (by omega)
  | case3 _ k _ => exact ⟨h1, h2, h3⟩

def ScanInv (dat : Array UInt8) (pos maxLen lo : Nat) (best : Nat × Int) : Prop :=
  best.1 ≤ maxLen ∧ (best.1 > 0 → ∃ i : Nat, best.2 = (i : Int) ∧ lo ≤ i ∧ i < pos ∧ best.1 ≤ pos - i ∧
    ∀ k, k < best.1 → dat.getD (i + k) 0 = dat.getD (pos + k) 0)

theorem scan_spec (dat : Array UInt8) (pos maxLen lo fuel i : Nat) (best : Nat × Int) (hlo : lo ≤ i)
    (h : ScanInv dat pos maxLen lo best) : ScanInv dat pos maxLen lo (scan dat pos maxLen fuel i best) := by
  fun_induction scan dat pos maxLen fuel i best with
  | case1 i best => exact h
  | case2 _ i best hi l best' ih =>
    refine ih (by omega) ?_
    have hm := matchLen_spec dat i pos maxLen maxLen 0 (by omega) (by omega) (by intro j hj; omega)
    show ScanInv dat pos maxLen lo (if l > best.1 then (l, (i : Int)) else best)
    split
    · exact ⟨hm.1, fun _ => ⟨i, rfl, hlo, hi, by have := hm.2.1; omega, hm.2.2⟩⟩
    · exact h
  | case3 _ i best _ => exact h

theorem findBlock_spec (dat : Array UInt8) (pos : Nat) (hpos : pos < dat.size) {bl : Nat} {bo : Int}
    (h : findBlock dat pos = (bl, bo)) :
    bl ≤ 17 ∧ pos + bl ≤ dat.size ∧
    (bl ≥ 3 → 1 ≤ bo ∧ bo ≤ min pos 3120 ∧ bl ≤ bo.toNat ∧
      ∀ k, k < bl → dat.getD (pos - bo.toNat + k) 0 = dat.getD (pos + k) 0) := by
  obtain ⟨h1, h2⟩ := scan_spec dat pos (min maxBlockLen (dat.size - pos)) (pos - min maxHistLen pos)
    (min maxHistLen pos) (pos - min maxHistLen pos) (0, -100000) (Nat.le_refl _) ⟨Nat.zero_le _, nofun⟩
  obtain ⟨rfl, rfl⟩ := Prod.mk.inj h
  simp only [maxBlockLen, maxHistLen_eq, Nat.le_min] at h1 h2 ⊢
  refine ⟨h1.1, by omega, fun h3 => ?_⟩
  obtain ⟨i, hi, hlo, hlt, hle, hm⟩ := h2 (by omega)
  rw [hi, show ((pos : Int) - (i : Int)).toNat = pos - i by omega]
  refine ⟨by omega, by omega, by omega, fun k hk => ?_⟩
  rw [show pos - (pos - i) + k = i + k by omega]
  exact hm k hk

theorem extract_push_getD (dat : Array UInt8) {p : Nat} (hp : p < dat.size) :
    (dat.extract 0 p).push (dat.getD p 0) = dat.extract 0 (p + 1) := by
  rw [Array.extract_succ_right (by omega) hp]
  simp [hp]

theorem copyBack_extract (dat : Array UInt8) (o : Nat) (ho : 1 ≤ o) (l p : Nat) (hop : o ≤ p)
    (hpl : p + l ≤ dat.size) (hm : ∀ j, j < l → dat.getD (p - o + j) 0 = dat.getD (p + j) 0) :
    copyBack o l (dat.extract 0 p) = dat.extract 0 (p + l) := by
  induction l generalizing p with
  | zero => rfl
  | succ l ih =>
    have hb : (dat.extract 0 p).getD ((dat.extract 0 p).size - o) 0 = dat.getD p 0 := by
      refine Eq.trans ?_ (hm 0 (by omega))
      simp [Nat.min_eq_left (show p ≤ dat.size by omega), show p - o < p by omega, show p - o < dat.size by omega]
    rw [copyBack, hb, extract_push_getD dat (by omega), show p + (l + 1) = p + 1 + l by omega]
    refine ih (p + 1) (by omega) (by omega) fun j hj => ?_
    rw [show p + 1 - o + j = p - o + (j + 1) by omega, show p + 1 + j = p + (j + 1) by omega]
    exact hm (j + 1) (by omega)

/-! The three tokens of the format as the reference decoder reads them. -/

theorem refDecodeAux_escape (b : UInt8) (rest : List UInt8) (acc : Array UInt8) :
    refDecodeAux (0 :: b :: rest) acc = refDecodeAux rest (acc.push b) := by
  rw [refDecodeAux.eq_def]
  exact if_pos rfl

theorem refDecodeAux_literal (i : Nat) (b : UInt8) (rest : List UInt8) (acc : Array UInt8) (h0 : i ≠ 0)
    (hi : Gen.charTable[i]? = some b) :
    refDecodeAux (i.toUInt8 :: rest) acc = refDecodeAux rest (acc.push b) := by
  have hlt : i < Gen.charTable.length := (List.getElem?_eq_some_iff.mp hi).1
  have hL := charTable_length
  have hn : i.toUInt8.toNat = i := toUInt8_toNat_of_lt _ (by omega)
  rw [refDecodeAux.eq_def]
  simp only [if_neg (toUInt8_ne_zero i (by omega) h0), hn, if_pos hlt, hi]

theorem refDecodeAux_block (o l : Nat) (rest : List UInt8) (acc : Array UInt8) (ho : 1 ≤ o) (ho' : o ≤ 3120)
    (hoa : o ≤ acc.size) (hl : 3 ≤ l) (hl' : l ≤ 17) :
    refDecodeAux ((o / 16 + tableLen).toUInt8 :: (o % 16 + (l - 2) * 16).toUInt8 :: rest) acc =
      refDecodeAux rest (copyBack o l acc) := by
  rw [tableLen_eq]
  have hc : (o / 16 + 60).toUInt8.toNat = o / 16 + 60 := toUInt8_toNat_of_lt _ (by omega)
  have hd : (o % 16 + (l - 2) * 16).toUInt8.toNat = o % 16 + (l - 2) * 16 :=
    toUInt8_toNat_of_lt _ (by omega)
  rw [refDecodeAux, if_neg (toUInt8_ne_zero _ (by omega) (by omega)), hc, charTable_length, if_neg (by omega)]
  have hoff : (o / 16 + 60 - 60) * 16 + (o % 16 + (l - 2) * 16) % 16 = o := by
    rw [Nat.add_sub_cancel, Nat.add_mul_mod_self_right, Nat.mod_mod, Nat.div_add_mod']
  have hlen : (o % 16 + (l - 2) * 16) / 16 + 2 = l := by
    rw [Nat.add_mul_div_right _ _ (by decide), Nat.div_eq_of_lt (Nat.mod_lt _ (by decide)), Nat.zero_add,
      Nat.sub_add_cancel (by omega)]
  simp only [hd, hoff, hlen]
  rw [if_neg (by omega)]

/-- the invariant of `compressLoop`: what is emitted so far, followed by any `rest`, decodes as `rest` does
after the first `pos` bytes of `dat` -/
theorem compressLoop_decodes (dat : Array UInt8) (fuel pos : Nat) (out : Array UInt8)
    (h1 : pos ≤ dat.size) (h2 : dat.size - pos ≤ fuel)
    (hd : ∀ rest, refDecodeAux (out.toList ++ rest) #[] = refDecodeAux rest (dat.extract 0 pos)) :
    refDecodeAux (compressLoop dat fuel pos out).toList #[] = some dat := by
  fun_induction compressLoop dat fuel pos out with
  | case1 pos out | case4 fuel pos out hp =>
    obtain rfl : pos = dat.size := by omega
    rw [← out.toList.append_nil, hd, Array.extract_size]; rfl
  | case2 fuel pos out hp bl bo hfb hb o ih =>
    obtain ⟨hl17, hsz, hrest⟩ := findBlock_spec dat pos hp hfb
    obtain ⟨ho1, ho2, hlo, hm⟩ := hrest hb
    refine ih (by omega) (by omega) fun rest => ?_
    rw [Array.toList_push, Array.toList_push, List.append_assoc, List.append_assoc, hd,
      ← copyBack_extract dat o (by omega) bl pos (by omega) hsz hm]
    exact refDecodeAux_block _ _ rest _ (by omega) (by omega) (by simp; omega) hb hl17
  | case3 fuel pos out hp bl _ _ _ b li out' ih =>
    refine ih (by omega) (by omega) fun rest => ?_
    rw [← extract_push_getD dat hp]
    by_cases hl : li = 0
    · rw [if_pos hl, Array.toList_push, Array.toList_push, List.append_assoc, List.append_assoc, hd, hl]
      exact refDecodeAux_escape _ rest _
    · rw [if_neg hl, Array.toList_push, List.append_assoc, hd]
      exact refDecodeAux_literal _ _ rest _ hl ((literalIndex_spec _).2 hl)

theorem refDecodeAux_compress (t : Bytes) :
    refDecodeAux (compress t) #[] = some (withSuffix t).toArray :=
  compressLoop_decodes _ _ 0 #[] (by omega) (by omega) fun _ => by simp

theorem copyBack_prefix (o l : Nat) (acc : Array UInt8) : acc.toList <+: (copyBack o l acc).toList := by
  fun_induction copyBack o l acc with
  | case1 acc => exact List.prefix_rfl
  | case2 l acc ih => exact List.IsPrefix.trans (by simp) ih

theorem refDecodeAux_prefix : ∀ s acc full, refDecodeAux s acc = some full →
    acc.toList <+: full.toList := by
  intro s acc
  fun_induction refDecodeAux s acc
  case case1 => intro full h; cases h; exact List.prefix_rfl
  case case3 ih => intro full h; exact List.IsPrefix.trans (by simp) (ih full h)
  case case4 ih => intro full h; exact List.IsPrefix.trans (by simp) (ih full h)
  case case8 ih => intro full h; exact List.IsPrefix.trans (copyBack_prefix _ _ _) (ih full h)
  all_goals (intro full h; cases h)

theorem decodeLoop_stop (cd : Array UInt8) (n fuel : Nat) (st : DSt)
    (h : ¬ (st.out.size < n ∧ st.inI < cd.size)) : decodeLoop cd n fuel st = .ok st := by
  cases fuel with
  | zero => rfl
  | succ f => unfold decodeLoop; rw [if_neg h]

theorem eq_of_toList_eq_take_of_lt {out acc : Array UInt8} {n : Nat} (h : out.toList = acc.toList.take n)
    (hn : out.size < n) : out = acc := by
  have hl : out.size = min n acc.size := by simpa using congrArg List.length h
  exact Array.toList_inj.mp (h.trans (List.take_of_length_le (by simp; omega)))

theorem toList_eq_take_of_prefix {out acc full : Array UInt8} {n : Nat} (h : out.toList = acc.toList.take n)
    (hn : ¬ out.size < n) (hp : acc.toList <+: full.toList) : out.toList = full.toList.take n := by
  have hl : out.size = min n acc.size := by simpa using congrArg List.length h
  obtain ⟨r, hr⟩ := hp
  rw [h, ← hr, List.take_append_of_le_length (by simp; omega)]

theorem toList_eq_take_of_le {acc : Array UInt8} {n : Nat} (h : acc.size ≤ n) : acc.toList = acc.toList.take n :=
  (List.take_of_length_le (by simpa using h)).symm

theorem toList_drop_eq_cons {cd : Array UInt8} {i : Nat} {c : UInt8} {x : List UInt8} (h : cd.toList.drop i = c :: x) :
    i < cd.size ∧ cd.getD i 0 = c ∧ cd.toList.drop (i + 1) = x := by
  have hc : cd[i]? = some c := by simpa using congrArg List.head? h
  obtain ⟨hi, hc⟩ := Array.getElem?_eq_some_iff.mp hc
  exact ⟨hi, by simp [hi, hc], by simpa using congrArg List.tail h⟩

theorem copyBlock_sim (n o : Nat) (ho : 1 ≤ o) (l : Nat) (acc : Array UInt8) (hoa : o ≤ acc.size)
    (hn : acc.size ≤ n) :
    ∃ out', copyBlock n o l acc = .ok out' ∧ out'.toList = (copyBack o l acc).toList.take n := by
  fun_induction copyBlock n o l acc with
  | case1 acc => exact ⟨acc, rfl, toList_eq_take_of_le hn⟩
  | case2 l acc hge =>
    exact ⟨acc, rfl, toList_eq_take_of_prefix (toList_eq_take_of_le hn) (by omega) (copyBack_prefix _ _ _)⟩
  | case3 l acc hlt ih =>
    have hr : readBack n acc o = .ok (acc.getD (acc.size - o) 0) := by
      rw [readBack, if_pos hoa, if_neg (by omega)]
    rw [hr, copyBack]
    exact ih _ (by simp; omega) (by simp; omega)

/-- The output `out` of picotool's loop is the reference decoder's accumulator `acc` cut at `n` bytes. Where padding follows
the stream the loop has to stop on the output length, hence `pad = [] ∨ n ≤ full.size`. The cases are those of the
reference decoder (`fun_cases refDecodeAux`). -/
theorem decodeLoop_sim (cd : Array UInt8) (n : Nat) (pad : List UInt8) :
    ∀ fuel s acc full i out, refDecodeAux s acc = some full → (pad = [] ∨ n ≤ full.size) →
      cd.toList.drop i = s ++ pad → s.length + 1 ≤ fuel → out.toList = acc.toList.take n →
      ∃ st, decodeLoop cd n fuel ⟨i, out⟩ = .ok st ∧
        st.out.toList = full.toList.take n := by
  intro fuel
  induction fuel with
  | zero => intro s acc full i out _ _ _ hf; omega
  | succ fuel ih =>
    intro s acc full i out h hp hcd hf ho
    by_cases hn : out.size < n
    case neg =>
      exact ⟨_, decodeLoop_stop _ _ _ _ fun h => hn h.1, toList_eq_take_of_prefix ho hn (refDecodeAux_prefix _ _ _ h)⟩
    obtain rfl := eq_of_toList_eq_take_of_lt ho hn
    have hL := charTable_length
    revert h
    rw [decodeLoop]
    fun_cases refDecodeAux s out
    case case1 =>
      intro h
      obtain rfl := Option.some.inj h
      refine ⟨_, if_neg fun hc => ?_, toList_eq_take_of_le (Nat.le_of_lt hn)⟩
      rcases hp with rfl | hp
      · exact Nat.not_lt.mpr (by simpa using List.drop_eq_nil_iff.mp hcd) hc.2
      · omega
    case case3 b rest =>
      intro h
      obtain ⟨hi, hc, hcd⟩ := toList_drop_eq_cons hcd
      obtain ⟨hi2, hb, hcd⟩ := toList_drop_eq_cons hcd
      simp only [hn, hi, hi2, hc, hb, and_self, if_true]
      exact ih rest _ full _ _ h hp hcd (by simp at hf; omega) (toList_eq_take_of_le (by simp; omega))
    case case4 c rest hc0 hlt ch hch =>
      intro h
      obtain ⟨hi, hc, hcd⟩ := toList_drop_eq_cons hcd
      have hle : c ≤ 0x3b := UInt8.le_iff_toNat_le.mpr (by simp; omega)
      simp only [hn, hi, hc, hc0, hle, hch, and_self, if_true, if_false]
      exact ih rest _ full _ _ h hp hcd (by simp at hf; omega) (toList_eq_take_of_le (by simp; omega))
    case case8 c hc0 hlt d rest o l hok =>
      intro h
      obtain ⟨hi, hc, hcd⟩ := toList_drop_eq_cons hcd
      obtain ⟨hi2, hd, hcd⟩ := toList_drop_eq_cons hcd
      have hle : ¬ c ≤ 0x3b := by rw [UInt8.le_iff_toNat_le]; simp; omega
      obtain ⟨out', hcb, hout'⟩ := copyBlock_sim n o (by omega) l out (by omega) (Nat.le_of_lt hn)
      simp only [o, l, hL] at hcb
      simp only [hn, hi, hi2, hc, hd, hc0, hle, hcb, and_self, if_true, if_false]
      exact ih rest _ full _ out' h hp hcd (by simp at hf; omega) hout'
    all_goals (intro h; cases h)

theorem withSuffix_prefix (t : Bytes) : t <+: withSuffix t := by
  unfold withSuffix
  split
  · split
    · rw [List.append_assoc]; exact List.prefix_append _ _
    · exact List.prefix_append _ _
  · exact List.prefix_rfl

theorem stripSuffix_noop (code suffix : Bytes) (h : ¬ suffix.isSuffixOf code = true) :
    stripSuffix code suffix = code :=
  if_neg h

theorem header_len_bytes (n : Nat) (h : n < 65536) :
    (n / 256).toUInt8.toNat * 256 + (n % 256).toUInt8.toNat = n := by
  rw [toUInt8_toNat_of_lt _ (by omega), toUInt8_toNat_of_lt _ (by omega)]; omega

end Pico.Compress
