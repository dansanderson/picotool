import PicoVerif.Model.Peg
/-! The successful runs of the grammar interpreter as a derivation relation: `Parses` has one rule per way `Peg.run` (or its
`chainLoop`) returns trees, and no fuel. The rules do not record why an alternative or a predicate failed (`notAhead` has no
premise), so what depends on a failure cannot be had from `Parses`. `run_parses` takes `run` apart once for all that holds of
every successful run (coverage, the fence, the language of the grammar), which is then proved by induction over the rules; only
fuel independence (Lemmas/PegFuel), which also speaks of failures, goes through `run` again. -/
namespace Pico.Peg
open Pico.Lex

theorem leavesL_leaf (i : Nat) : leavesL [.leaf i] = [i] := by simp [leavesL, Tree.leaves]

theorem leavesL_node (k s e : Nat) (cs : List Tree) : leavesL [.node k s e cs] = leavesL cs := by
  simp [leavesL, Tree.leaves]

theorem leavesL_reparent (acc ts : List Tree) : leavesL (reparent acc ts) = leavesL acc ++ leavesL ts := by
  unfold reparent
  split
  · rw [leavesL_node, leavesL_node, leavesL_append]
  · exact leavesL_append _ _

/-- what is being run: a grammar expression, or the `chainLoop` with its accumulator -/
inductive Job
  | run (g : G)
  | loop (sfx : G) (acc : List Tree)

/-- the limit a `fence` puts in force -/
def fenceLim (toks : Array Tok) (st : PSt) : Nat :=
  match st.maxPos with
  | none => nextNewline toks st.pos
  | some s => min s (nextNewline toks st.pos)

variable (gram : Nat → G) (toks : Array Tok) in
/-- `Parses gram toks j st ts st'`: job `j` started in `st` succeeds with trees `ts` and state `st'` -/
inductive Parses : Job → PSt → List Tree → PSt → Prop
  | eps {st} : Parses (.run .eps) st [] st
  | tok {p st} (h : skipTrivia toks st.pos < toks.size) :
      p.matches toks[skipTrivia toks st.pos] = true → fenceOk st.maxPos (skipTrivia toks st.pos) = true →
      Parses (.run (.tok p)) st [.leaf (skipTrivia toks st.pos)] { st with pos := skipTrivia toks st.pos + 1 }
  | seq {a b st ta st1 tb st2} : Parses (.run a) st ta st1 → Parses (.run b) st1 tb st2 →
      Parses (.run (.seq a b)) st (ta ++ tb) st2
  | altL {a b st ts st'} : Parses (.run a) st ts st' → Parses (.run (.alt a b)) st ts st'
  | altR {a b st ts st'} : Parses (.run b) st ts st' → Parses (.run (.alt a b)) st ts st'
  | starNil {g st} : Parses (.run (.star g)) st [] st
  | starOne {g st ts st'} : Parses (.run g) st ts st' → Parses (.run (.star g)) st ts st'
  | starCons {g st t1 st1 t2 st2} : Parses (.run g) st t1 st1 → st.pos < st1.pos →
      Parses (.run (.star g)) st1 t2 st2 → Parses (.run (.star g)) st (t1 ++ t2) st2
  | nt {n st ts st'} : Parses (.run (gram n)) st ts st' → Parses (.run (.nt n)) st ts st'
  | hard {g st ts st'} : Parses (.run g) st ts st' → Parses (.run (.hard g)) st ts st'
  | node {k g st ts st1} : Parses (.run g) st ts st1 →
      Parses (.run (.node k g)) st [.node k st.pos st1.pos ts] st1
  | chain {first sfx st t1 st1 ts st'} : Parses (.run first) st t1 st1 → Parses (.loop sfx t1) st1 ts st' →
      Parses (.run (.chain first sfx)) st ts st'
  | fence {g st ts st1} : Parses (.run g) { st with maxPos := some (fenceLim toks st) } ts st1 →
      Parses (.run (.fence g)) st ts { st1 with maxPos := st.maxPos }
  | prevTokIs {p st} (h : 0 < st.pos ∧ st.pos - 1 < toks.size) : p.matches (toks[st.pos - 1]'h.2) = true →
      Parses (.run (.prevTokIs p)) st [] st
  | notAhead {g st} : Parses (.run (.notAhead g)) st [] st
  | filterTop {ks g st ts st'} : Parses (.run g) st ts st' → topKindIn ks ts = true →
      Parses (.run (.filterTop ks g)) st ts st'
  | loopStop {sfx acc st} : Parses (.loop sfx acc) st acc st
  | loopStep {sfx acc st ts1 st1 ts st'} : Parses (.run sfx) st ts1 st1 →
      Parses (.loop sfx (reparent acc ts1)) st1 ts st' → Parses (.loop sfx acc) st ts st'

theorem run_parses (gram : Nat → G) (toks : Array Tok) : ∀ fuel,
    (∀ g st ts st', run gram toks fuel g st = .ok (some (ts, st')) → Parses gram toks (.run g) st ts st') ∧
    (∀ sfx acc st ts st', run.chainLoop gram toks fuel sfx acc st = .ok (some (ts, st')) →
        Parses gram toks (.loop sfx acc) st ts st') := by
  intro fuel
  induction fuel with
  | zero => constructor <;> intros <;> simp_all [run, run.chainLoop]
  | succ n ih =>
    obtain ⟨ihR, ihC⟩ := ih
    constructor
    · intro g st ts st' h
      cases g <;> simp only [run] at h
      case eps => simp at h; obtain ⟨rfl, rfl⟩ := h; exact .eps
      case tok p =>
        split at h <;> try simp at h
        rename_i hj
        split at h <;> simp at h
        rename_i hm
        obtain ⟨rfl, rfl⟩ := h
        exact .tok hj hm.1 hm.2
      case seq a b =>
        split at h <;> try simp at h
        rename_i ha
        split at h <;> simp at h
        rename_i hb
        obtain ⟨rfl, rfl⟩ := h
        exact .seq (ihR _ _ _ _ ha) (ihR _ _ _ _ hb)
      case alt a b =>
        split at h <;> simp at h
        · rename_i ha; subst h; exact .altL (ihR _ _ _ _ ha)
        · exact .altR (ihR _ _ _ _ h)
      case star g =>
        split at h <;> try simp at h
        · obtain ⟨rfl, rfl⟩ := h; exact .starNil
        · rename_i h1
          split at h
          · simp at h; obtain ⟨rfl, rfl⟩ := h; exact .starOne (ihR _ _ _ _ h1)
          · split at h <;> simp at h <;> obtain ⟨rfl, rfl⟩ := h
            · exact .starOne (ihR _ _ _ _ h1)
            · rename_i hp _ _ _ h2; exact .starCons (ihR _ _ _ _ h1) (Nat.lt_of_not_le hp) (ihR _ _ _ _ h2)
      case nt k => exact .nt (ihR _ _ _ _ h)
      case hard g =>
        split at h <;> simp at h
        rename_i hg; subst h; exact .hard (ihR _ _ _ _ hg)
      case node k g =>
        split at h <;> simp at h
        rename_i hg; obtain ⟨rfl, rfl⟩ := h; exact .node (ihR _ _ _ _ hg)
      case chain first sfx =>
        split at h <;> try simp at h
        rename_i h1
        exact .chain (ihR _ _ _ _ h1) (ihC _ _ _ _ _ h)
      case fence g =>
        split at h <;> simp at h
        rename_i hg; obtain ⟨rfl, rfl⟩ := h; exact .fence (ihR _ _ _ _ hg)
      case prevTokIs p =>
        split at h <;> try simp at h
        split at h <;> simp at h
        rename_i hp hm; obtain ⟨rfl, rfl⟩ := h; exact .prevTokIs hp hm
      case notAhead g =>
        split at h <;> simp at h
        obtain ⟨rfl, rfl⟩ := h; exact .notAhead
      case filterTop ks g =>
        split at h <;> try simp at h
        rename_i hg
        split at h <;> simp at h
        rename_i hk
        obtain ⟨rfl, rfl⟩ := h
        exact .filterTop (ihR _ _ _ _ hg) hk
    · intro sfx acc st ts st' h
      simp only [run.chainLoop] at h
      split at h <;> try simp at h
      · obtain ⟨rfl, rfl⟩ := h; exact .loopStop
      · rename_i h1
        split at h
        · simp at h; obtain ⟨rfl, rfl⟩ := h; exact .loopStep (ihR _ _ _ _ h1) .loopStop
        · exact .loopStep (ihR _ _ _ _ h1) (ihC _ _ _ _ _ h)

theorem Parses.of_run {gram : Nat → G} {toks : Array Tok} {fuel : Nat} {g : G} {st st' : PSt} {ts : List Tree}
    (h : run gram toks fuel g st = .ok (some (ts, st'))) : Parses gram toks (.run g) st ts st' :=
  (run_parses gram toks fuel).1 g st ts st' h

end Pico.Peg
