import PicoVerif.Lemmas.LexCore
/-! The six numeral matchers of `Model/Lexer` under one description: a few fixed head bytes, a non-empty digit run and an
optional tail (`byteThen`, `runThen`). What the properties need of a numeral matcher — it stays among the numeral bytes, it
looks no further than a line feed, it reads before a terminator what it read before the original continuation — is proved
once per combinator and once per tail. -/
namespace Pico.LexL
open Pico.Lex

/-- bytes a numeral can contain (over-approximation) -/
def numCh (b : UInt8) : Bool := isIdentChar b || b == 46 || b == 45

theorem digit_numCh (b : UInt8) (h : isDigit b = true) : numCh b = true := by simp [numCh, digit_identChar b h]

theorem dot_span_le {dig : UInt8 → Bool} (hdig : ∀ b, dig b = true → isIdentChar b = true) (r : Bytes) :
    1 + spanLen dig r ≤ spanLen numCh (46 :: r) := by
  have := spanLen_mono (p := dig) (q := numCh) (fun b hb => by simp [numCh, hdig b hb]) r
  rw [spanLen_cons, if_pos (by decide : numCh 46 = true)]; omega

theorem lf_false {p : UInt8 → Bool} (hp : ∀ b, p b = true → isIdentChar b = true) : p 10 = false := by
  cases h : p 10 with
  | false => rfl
  | true => exact absurd (hp 10 h) (by decide)

def TermNum (z : Bytes) : Prop := ∀ c, z.head? = some c → isIdentChar c = false ∧ c ≠ 46

theorem spanLen_term {p : UInt8 → Bool} (hp : ∀ b, p b = true → isIdentChar b = true) (d r : Bytes) {z : Bytes}
    (hz : TermNum z) : spanLen p (d ++ z) = min d.length (spanLen p (d ++ r)) := by
  induction d with
  | nil =>
    have : spanLen p z = 0 := spanLen_head_false _ _ fun c hc => by
      cases hd : p c with
      | false => rfl
      | true => have := (hz c hc).1; rw [hp c hd] at this; cases this
    simp [this]
  | cons c t ih =>
    simp only [List.cons_append, spanLen_cons, List.length_cons, ih]
    split <;> omega

/-- a length function that, when it reads exactly `d` before some text, reads exactly `d` before a terminator -/
def Stab (T : Bytes → Nat) : Prop := ∀ d r z, TermNum z → T (d ++ r) = d.length → T (d ++ z) = d.length

/-- what the properties need of the optional tail of a numeral -/
structure NumTail (T : Bytes → Nat) : Prop where
  le : ∀ s, T s ≤ spanLen numCh s
  lf : ∀ a x, T (a ++ 10 :: x) = T a
  stab : Stab T

/-- what the properties need of a numeral matcher: a match stays among the numeral bytes; the verdict on a text does not
depend on what follows a line feed; a verdict on `d ++ _` (exactly `d`, or no match) survives replacing the continuation
by a terminator -/
structure NumMatcher (m : Bytes → Option Nat) : Prop where
  le : ∀ s n, m s = some n → n ≤ spanLen numCh s
  lf : ∀ a x, m (a ++ 10 :: x) = m a
  stab : ∀ d r z, TermNum z → m (d ++ r) = some d.length → m (d ++ z) = some d.length
  stab_none : ∀ d r z, TermNum z → m (d ++ r) = none → m (d ++ z) = none

def spanThen (p : UInt8 → Bool) (T : Bytes → Nat) (s : Bytes) : Nat := spanLen p s + T (s.drop (spanLen p s))

def runThen (p : UInt8 → Bool) (T : Bytes → Nat) (s : Bytes) : Option Nat :=
  if spanLen p s = 0 then none else some (spanThen p T s)

def byteThen (bs : List UInt8) (m : Bytes → Option Nat) : Bytes → Option Nat
  | c :: s => if c ∈ bs then (m s).map (· + 1) else none
  | [] => none

theorem Stab.spanThen {p : UInt8 → Bool} (hp : ∀ b, p b = true → isIdentChar b = true) {T : Bytes → Nat} (hT : Stab T) :
    Stab (spanThen p T) := by
  intro d r z hz h
  unfold LexL.spanThen at h ⊢
  have hle : spanLen p (d ++ r) ≤ d.length := by omega
  simp only [spanLen_term hp d r hz, Nat.min_eq_right hle, List.drop_append_of_le_length hle] at h ⊢
  rw [hT _ r z hz (by rw [List.length_drop]; omega), List.length_drop]
  omega

theorem NumMatcher.runThen {p : UInt8 → Bool} (hp : ∀ b, p b = true → isIdentChar b = true) {T : Bytes → Nat}
    (hT : NumTail T) : NumMatcher (runThen p T) where
  le s n h := by
    unfold LexL.runThen at h
    split at h <;> cases h
    exact spanLen_add_le _ _ _ _ (spanLen_mono (fun b hb => by simp [numCh, hp b hb]) s) (hT.le _)
  lf a x := by
    simp only [LexL.runThen, LexL.spanThen, spanLen_lf p (lf_false hp), drop_span_app, hT.lf]
  stab d r z hz h := by
    have hn := spanLen_term hp d r hz
    unfold LexL.runThen at h ⊢
    split at h
    · cases h
    · have := Option.some.inj h
      rw [if_neg (by unfold LexL.spanThen at this; omega), Stab.spanThen hp hT.stab d r z hz this]
  stab_none d r z hz h := by
    unfold LexL.runThen at h ⊢
    split at h
    · rename_i h0
      rw [if_pos (by rw [spanLen_term hp d r hz, h0]; exact Nat.min_zero _)]
    · cases h

theorem byteThen_pos {bs : List UInt8} {m : Bytes → Option Nat} {s : Bytes} {n : Nat} (h : byteThen bs m s = some n) :
    1 ≤ n := by
  cases s with
  | nil => cases h
  | cons c r =>
    simp only [byteThen] at h
    split at h
    · obtain ⟨k, -, rfl⟩ := Option.map_eq_some_iff.mp h; omega
    · cases h

theorem NumMatcher.byteThen {bs : List UInt8} (hq : ∀ b ∈ bs, isIdentChar b = true ∨ b = 46)
    {m : Bytes → Option Nat} (hm : NumMatcher m) : NumMatcher (byteThen bs m) where
  le s n h := by
    cases s with
    | nil => cases h
    | cons c r =>
      simp only [LexL.byteThen] at h
      split at h
      · next hc =>
        obtain ⟨k, hk, rfl⟩ := Option.map_eq_some_iff.mp h
        have := hm.le r k hk
        have hcn : numCh c = true := by rcases hq c hc with h | rfl <;> simp [numCh, *]
        rw [spanLen_cons, if_pos hcn]; omega
      · cases h
  lf a x := by
    cases a with
    | nil =>
      simp only [List.nil_append, LexL.byteThen]
      rw [if_neg fun h => by rcases hq 10 h with h | h <;> exact absurd h (by decide)]
    | cons c a' => simp only [List.cons_append, LexL.byteThen, hm.lf]
  stab d r z hz h := by
    cases d with
    | nil => exact absurd (byteThen_pos h) (by decide)
    | cons c d' =>
      simp only [List.cons_append, LexL.byteThen, List.length_cons] at h ⊢
      split at h
      · rename_i hc
        cases hmr : m (d' ++ r) with
        | none => rw [hmr] at h; cases h
        | some k =>
          rw [hmr] at h
          obtain rfl : k = d'.length := by simpa using h
          rw [if_pos hc, hm.stab d' r z hz hmr]; rfl
      · cases h
  stab_none d r z hz h := by
    cases d with
    | nil =>
      cases z with
      | nil => rfl
      | cons c z' =>
        have hc : c ∉ bs := fun hc => by
          rcases hq c hc with h1 | h1
          · rw [(hz c rfl).1] at h1; cases h1
          · exact (hz c rfl).2 h1
        simp only [List.nil_append, LexL.byteThen, if_neg hc]
    | cons c d' =>
      simp only [List.cons_append, LexL.byteThen] at h ⊢
      split
      · rename_i hc
        rw [if_pos hc] at h
        cases hmr : m (d' ++ r) with
        | none => rw [hm.stab_none d' r z hz hmr]; rfl
        | some k => rw [hmr] at h; cases h
      · rfl

theorem expLen_cons_not (e : UInt8) (rest : Bytes) (h : ¬(e = 101 ∨ e = 69)) : expLen (e :: rest) = 0 := by
  simp only [expLen]; rw [if_neg h]

theorem expLen_single (e : UInt8) : expLen [e] = 0 := by
  simp only [expLen]; split <;> simp [spanLen_nil]

theorem expLen_cons_minus (e : UInt8) (r : Bytes) (h : e = 101 ∨ e = 69) :
    expLen (e :: 45 :: r) = if spanLen isDigit r = 0 then 0 else 2 + spanLen isDigit r := by
  simp only [expLen]; rw [if_pos h]; simp

theorem expLen_cons_other (e m : UInt8) (r : Bytes) (h : e = 101 ∨ e = 69) (hm : m ≠ 45) :
    expLen (e :: m :: r) = if spanLen isDigit (m :: r) = 0 then 0 else 1 + spanLen isDigit (m :: r) := by
  simp only [expLen]; rw [if_pos h]; simp [hm]

theorem expLen_le_span (z : Bytes) : expLen z ≤ spanLen numCh z := by
  match z with
  | [] => exact Nat.zero_le _
  | [e] => rw [expLen_single]; exact Nat.zero_le _
  | e :: m :: r =>
    by_cases he : e = 101 ∨ e = 69
    · have hen : numCh e = true := by rcases he with rfl | rfl <;> decide
      by_cases hm : m = 45
      · subst hm
        have := spanLen_mono digit_numCh r
        rw [expLen_cons_minus e r he, spanLen_cons numCh, if_pos hen, spanLen_cons numCh,
          if_pos (by decide : numCh 45 = true)]
        split <;> omega
      · have := spanLen_mono digit_numCh (m :: r)
        rw [expLen_cons_other e m r he hm, spanLen_cons numCh, if_pos hen]
        split <;> omega
    · rw [expLen_cons_not _ _ he]; exact Nat.zero_le _

theorem expLen_lf (a x : Bytes) : expLen (a ++ 10 :: x) = expLen a := by
  have hd : isDigit 10 = false := by decide
  match a with
  | [] => simp [expLen]
  | [e] => simp [expLen, spanLen, hd]
  | e :: m :: a' =>
    simp only [List.cons_append, expLen]
    by_cases hm : m = 45
    · simp only [hm, if_true, spanLen_lf _ hd]
    · simp only [hm, if_false, ← List.cons_append, spanLen_lf _ hd]

theorem expLen_term (z : Bytes) (hz : TermNum z) : expLen z = 0 := by
  cases z with
  | nil => rfl
  | cons c z' =>
    have := (hz c rfl).1
    apply expLen_cons_not
    rintro (rfl | rfl) <;> exact absurd this (by decide)

theorem expLen_stab : Stab expLen := by
  intro d r z hz h
  match d with
  | [] => exact expLen_term z hz
  | e :: d' =>
    by_cases he : e = 101 ∨ e = 69
    · match d', r with
      | [], [] => rw [List.append_nil, expLen_single] at h; cases h
      -- an exponent is longer than its `e`
      | [], m :: r' =>
        by_cases hm : m = 45
        · subst hm
          simp only [List.cons_append, List.nil_append, expLen_cons_minus e r' he, List.length_cons, List.length_nil] at h
          split at h <;> omega
        · simp only [List.cons_append, List.nil_append, expLen_cons_other e m r' he hm, List.length_cons,
            List.length_nil] at h
          split at h <;> omega
      | m :: d'', r =>
        by_cases hm : m = 45
        · subst hm
          simp only [List.cons_append, expLen_cons_minus e _ he, List.length_cons, spanLen_term digit_identChar d'' r hz]
            at h ⊢
          split at h <;> split <;> omega
        · have hsp := spanLen_term digit_identChar (m :: d'') r hz
          simp only [List.cons_append, expLen_cons_other e m _ he hm, List.length_cons] at h hsp ⊢
          rw [hsp]
          split at h <;> split <;> omega
    · rw [List.cons_append, expLen_cons_not e _ he] at h; cases h

theorem expLen_tail : NumTail expLen := ⟨expLen_le_span, expLen_lf, expLen_stab⟩

/-- the optional fraction of a decimal numeral: `\.(?!\.)[0-9]*` -/
def fracLen (rest : Bytes) : Nat :=
  match rest with
  | d :: r => if d = 46 ∧ r.head? ≠ some 46 then 1 + spanLen isDigit r else 0
  | [] => 0

theorem fracLen_le_span (s : Bytes) : fracLen s ≤ spanLen numCh s := by
  cases s with
  | nil => exact Nat.zero_le _
  | cons d r =>
    simp only [fracLen]
    split
    · next hc => rw [hc.1]; exact dot_span_le digit_identChar r
    · exact Nat.zero_le _

theorem fracLen_lf (a x : Bytes) : fracLen (a ++ 10 :: x) = fracLen a := by
  cases a with
  | nil => simp [fracLen]
  | cons d a' =>
    have hh : ((a' ++ 10 :: x).head? ≠ some 46) = (a'.head? ≠ some 46) := by cases a' <;> simp
    simp only [List.cons_append, fracLen, spanLen_lf isDigit (by decide), hh]

def tailLen (rest : Bytes) : Nat := fracLen rest + expLen (rest.drop (fracLen rest))

theorem tailLen_stab : Stab tailLen := by
  intro d r z hz h
  cases d with
  | nil =>
    have hf : fracLen z = 0 := by
      cases z with
      | nil => rfl
      | cons c z' => simp [fracLen, (hz c rfl).2]
    simp [tailLen, hf, expLen_term z hz]
  | cons c d' =>
    simp only [tailLen, List.cons_append, fracLen, List.length_cons] at h ⊢
    by_cases hfr : c = 46 ∧ (d' ++ r).head? ≠ some 46
    · -- a fraction: its digits, then the exponent
      have hz46 : (d' ++ z).head? ≠ some 46 := by
        cases d' with
        | nil => exact fun h46 => (hz 46 h46).2 rfl
        | cons _ _ => exact hfr.2
      rw [if_pos hfr, Nat.add_comm 1, List.drop_succ_cons] at h
      rw [if_pos ⟨hfr.1, hz46⟩, Nat.add_comm 1, List.drop_succ_cons]
      have := Stab.spanThen digit_identChar expLen_stab d' r z hz (by unfold spanThen; omega)
      unfold spanThen at this
      omega
    · -- no fraction: the exponent begins with `e`, not with `.`
      rw [if_neg hfr, List.drop_zero, Nat.zero_add] at h
      have hc46 : c ≠ 46 := by
        rintro rfl
        rw [expLen_cons_not _ _ (by decide)] at h; cases h
      rw [if_neg (fun h' => hc46 h'.1), List.drop_zero, Nat.zero_add]
      exact expLen_stab (c :: d') r z hz h

theorem tailLen_tail : NumTail tailLen where
  le s := spanLen_add_le _ _ _ _ (fracLen_le_span s) (expLen_le_span _)
  lf a x := by
    simp only [tailLen, fracLen_lf, expLen_lf,
      List.drop_append_of_le_length (Nat.le_trans (fracLen_le_span a) (spanLen_le _ _))]
  stab := tailLen_stab

/-- the optional fraction of a radix numeral: `\.<digits>+` -/
def radTail (dig : UInt8 → Bool) (rest2 : Bytes) : Nat :=
  match rest2 with
  | d :: rest3 => if d = 46 ∧ spanLen dig rest3 > 0 then 1 + spanLen dig rest3 else 0
  | [] => 0

theorem radTail_tail {dig : UInt8 → Bool} (hdig : ∀ b, dig b = true → isIdentChar b = true) : NumTail (radTail dig) where
  le s := by
    cases s with
    | nil => exact Nat.zero_le _
    | cons d r =>
      simp only [radTail]
      split
      · next hc => rw [hc.1]; exact dot_span_le hdig r
      · exact Nat.zero_le _
  lf a x := by
    cases a with
    | nil => simp [radTail]
    | cons d a' => simp only [radTail, List.cons_append, spanLen_lf _ (lf_false hdig)]
  stab d r z hz h := by
    cases d with
    | nil =>
      cases z with
      | nil => rfl
      | cons c z' => simp [radTail, (hz c rfl).2]
    | cons c d' =>
      simp only [List.cons_append, radTail, List.length_cons, spanLen_term hdig d' r hz] at h ⊢
      split at h
      · rename_i hc
        rw [if_pos ⟨hc.1, by omega⟩]; omega
      · cases h

theorem mDecimal_shape : mDecimal = runThen isDigit tailLen := by
  funext s
  simp only [mDecimal, tailLen, Nat.add_assoc, runThen, spanThen]
  rfl

theorem mDotDecimal_shape : mDotDecimal = byteThen [46] (runThen isDigit expLen) := by
  funext s
  cases s with
  | nil => rfl
  | cons c rest =>
    simp only [mDotDecimal, byteThen, runThen, spanThen, List.mem_singleton]
    split
    · split <;> simp <;> omega
    · rfl

theorem mRadix_shape (p1 p2 : UInt8) (dig : UInt8 → Bool) :
    mRadix p1 p2 dig = byteThen [48] (byteThen [p1, p2] (runThen dig (radTail dig))) := by
  funext s
  match s with
  | [] => rfl
  | [_] => simp [mRadix, byteThen]
  | z :: x :: rest =>
    simp only [mRadix, byteThen, runThen, spanThen, List.mem_cons, List.not_mem_nil, or_false]
    by_cases hz : z = 48 <;> by_cases hx : x = p1 ∨ x = p2 <;>
      simp only [hz, hx, and_self, and_false, false_and, if_true, if_false, Option.map_none]
    split
    · rfl
    · split
      · next heq =>
        rw [heq]; simp only [radTail]
        split <;> simp <;> omega
      · next heq => rw [heq]; simp [radTail]; omega

theorem mRadixFrac_shape (p1 p2 : UInt8) (dig : UInt8 → Bool) :
    mRadixFrac p1 p2 dig =
      byteThen [48] (byteThen [p1, p2] (byteThen [46] (runThen dig fun _ => 0))) := by
  funext s
  match s with
  | [] => rfl
  | [_] => simp [mRadixFrac, byteThen]
  | [_, _] => simp [mRadixFrac, byteThen]
  | z :: x :: d :: rest =>
    simp only [mRadixFrac, byteThen, runThen, spanThen, List.mem_cons, List.not_mem_nil, or_false]
    by_cases hz : z = 48 <;> by_cases hx : x = p1 ∨ x = p2 <;> by_cases hd : d = 46 <;>
      simp only [hz, hx, hd, and_self, and_false, false_and, if_true, if_false, Option.map_none]
    split <;> simp <;> omega

theorem mRadix_num (p1 p2 : UInt8) {dig : UInt8 → Bool} (hdig : ∀ b, dig b = true → isIdentChar b = true)
    (h1 : isIdentChar p1 = true) (h2 : isIdentChar p2 = true) : NumMatcher (mRadix p1 p2 dig) := by
  rw [mRadix_shape]
  exact .byteThen (by decide) (.byteThen (by simp [h1, h2]) (.runThen hdig (radTail_tail hdig)))

theorem mRadixFrac_num (p1 p2 : UInt8) {dig : UInt8 → Bool} (hdig : ∀ b, dig b = true → isIdentChar b = true)
    (h1 : isIdentChar p1 = true) (h2 : isIdentChar p2 = true) : NumMatcher (mRadixFrac p1 p2 dig) := by
  rw [mRadixFrac_shape]
  exact .byteThen (by decide) (.byteThen (by simp [h1, h2]) (.byteThen (by decide)
    (.runThen hdig ⟨fun _ => Nat.zero_le _, fun _ _ => rfl, fun _ _ _ _ h => h⟩)))

theorem numMatchers_num : ∀ m ∈ numMatchers, NumMatcher m := by
  intro m hm
  simp only [numMatchers, List.mem_cons, List.not_mem_nil, or_false] at hm
  rcases hm with rfl | rfl | rfl | rfl | rfl | rfl
  · exact mRadix_num _ _ hex_identChar (by decide) (by decide)
  · exact mRadixFrac_num _ _ hex_identChar (by decide) (by decide)
  · exact mRadix_num _ _ bin_identChar (by decide) (by decide)
  · exact mRadixFrac_num _ _ bin_identChar (by decide) (by decide)
  · rw [mDecimal_shape]; exact .runThen digit_identChar tailLen_tail
  · rw [mDotDecimal_shape]; exact .byteThen (by decide) (.runThen digit_identChar expLen_tail)

theorem num_of_matchOne {s : Bytes} {n : Nat} (h : matchOne Gen.matcherShape s = some (.number, n)) :
    ∃ m ∈ numMatchers, m s = some n := by
  rcases matchOne_cases h with h | h | h | h | h | h <;> exact ⟨_, by simp [numMatchers], h⟩

end Pico.LexL
