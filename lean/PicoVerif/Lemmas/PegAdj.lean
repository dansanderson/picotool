import PicoVerif.Model.PegAdj
import PicoVerif.Lemmas.PegParses
import PicoVerif.Lemmas.Basic
/-! Soundness of the adjacency analysis `Adj.summ` for EVERY grammar: whatever `Peg.run` accepts is a word of the
grammar's context-free language (predicates ignored), and every two tokens standing next to each other in such a word
are matched by a pair of patterns that the analysis lists. -/
namespace Pico.Adj
open Pico.Peg Pico.Lex

/-- token sequences a grammar expression can accept when every predicate (`notAhead`, `prevTokIs`, the fence,
`filterTop`, ordered choice) is ignored: the context-free over-approximation of `Peg.run` -/
inductive Lang (gram : Nat → G) : G → List Tok → Prop
  | eps : Lang gram .eps []
  | tok (p : Pat) (t : Tok) : p.matches t = true → Lang gram (.tok p) [t]
  | seq {a b u v} : Lang gram a u → Lang gram b v → Lang gram (.seq a b) (u ++ v)
  | altL {a b u} : Lang gram a u → Lang gram (.alt a b) u
  | altR {a b u} : Lang gram b u → Lang gram (.alt a b) u
  | starNil {g} : Lang gram (.star g) []
  | starCons {g u v} : Lang gram g u → Lang gram (.star g) v → Lang gram (.star g) (u ++ v)
  | nt {n u} : Lang gram (gram n) u → Lang gram (.nt n) u
  | hard {g u} : Lang gram g u → Lang gram (.hard g) u
  | node {k g u} : Lang gram g u → Lang gram (.node k g) u
  | chain {f s u v} : Lang gram f u → Lang gram (.star s) v → Lang gram (.chain f s) (u ++ v)
  | fence {g u} : Lang gram g u → Lang gram (.fence g) u
  | prevTokIs (p : Pat) : Lang gram (.prevTokIs p) []
  | notAhead (g : G) : Lang gram (.notAhead g) []
  | filterTop {ks g u} : Lang gram g u → Lang gram (.filterTop ks g) u

def toksAt (toks : Array Tok) (is : List Nat) : List Tok := is.filterMap (toks[·]?)

/-- what a summary claims about a word -/
structure Ok (cls : List Pat) (sm : Sm) (u : List Tok) : Prop where
  null : u = [] → sm.nullable = true
  first : ∀ t, u.head? = some t → ∃ p, p.matches t = true ∧ sm.first.testBit (idx cls p) = true
  last : ∀ t, u.getLast? = some t → ∃ p, p.matches t = true ∧ sm.last.testBit (idx cls p) = true
  adj : ∀ i a b, u[i]? = some a → u[i + 1]? = some b →
    ∃ p q, p.matches a = true ∧ q.matches b = true ∧ sm.adj.testBit (idx cls p * (cls.length + 1) + idx cls q) = true

theorem toksAt_append (toks : Array Tok) (a b : List Nat) :
    toksAt toks (a ++ b) = toksAt toks a ++ toksAt toks b := by
  simp [toksAt, List.filterMap_append]

theorem toksAt_nil (toks : Array Tok) : toksAt toks [] = [] := rfl

/-- the leaves of a successful run spell a word of the grammar's language; the loop adds a word of `star sfx` to what its
accumulator spells -/
theorem _root_.Pico.Peg.Parses.lang {gram : Nat → G} {toks : Array Tok} {j st ts st'} (h : Parses gram toks j st ts st') :
    match j with
    | .run g => Lang gram g (toksAt toks (leavesL ts))
    | .loop sfx acc => ∃ v, toksAt toks (leavesL ts) = toksAt toks (leavesL acc) ++ v ∧ Lang gram (.star sfx) v := by
  induction h with
  | eps => exact Lang.eps
  | @tok p st h hm _ =>
    have : toksAt toks [skipTrivia toks st.pos] = [toks[skipTrivia toks st.pos]] := by simp [toksAt, h]
    rw [leavesL_leaf, this]
    exact Lang.tok p _ hm
  | seq _ _ ih1 ih2 => rw [leavesL_append, toksAt_append]; exact Lang.seq ih1 ih2
  | altL _ ih => exact Lang.altL ih
  | altR _ ih => exact Lang.altR ih
  | starNil => exact Lang.starNil
  | starOne _ ih => simpa using Lang.starCons ih .starNil
  | starCons _ _ _ ih1 ih2 => rw [leavesL_append, toksAt_append]; exact Lang.starCons ih1 ih2
  | nt _ ih => exact Lang.nt ih
  | hard _ ih => exact Lang.hard ih
  | node _ ih => rw [leavesL_node]; exact Lang.node ih
  | chain _ _ ih1 ih2 => obtain ⟨v, hv, hl⟩ := ih2; exact hv ▸ Lang.chain ih1 hl
  | fence _ ih => exact Lang.fence ih
  | prevTokIs => exact Lang.prevTokIs _
  | notAhead => exact Lang.notAhead _
  | filterTop _ _ ih => exact Lang.filterTop ih
  | loopStop => exact ⟨[], by simp, Lang.starNil⟩
  | loopStep _ _ ih1 ih2 =>
    obtain ⟨v, hv, hs⟩ := ih2
    exact ⟨_, by rw [hv, leavesL_reparent, toksAt_append, List.append_assoc], Lang.starCons ih1 hs⟩

theorem run_lang (gram : Nat → G) (toks : Array Tok) (fuel : Nat) (g : G) (st st' : PSt) (ts : List Tree)
    (h : run gram toks fuel g st = .ok (some (ts, st'))) : Lang gram g (toksAt toks (leavesL ts)) :=
  (Parses.of_run h).lang

theorem idx_le (cls : List Pat) (p : Pat) : idx cls p ≤ cls.length := by
  induction cls with
  | nil => simp [idx]
  | cons q rest ih => simp only [idx, List.length_cons]; split <;> omega

theorem patEq_eq (p q : Pat) (h : patEq p q = true) : p = q := by
  cases p <;> cases q <;> simp [patEq] at h ⊢ <;> exact h

theorem idx_get (cls : List Pat) (p p' : Pat) (h : cls[idx cls p]? = some p') : p' = p := by
  fun_induction idx cls p with
  | case1 => cases h
  | case2 c r hc => exact Option.some.inj h ▸ patEq_eq _ _ hc
  | case3 c r _ ih => exact ih (by simpa using h)

/-- `pairs` with the range cut at `n` (`pairs w a b` is `pairsTo w a b w` by definition) -/
def pairsTo (w a b n : Nat) : Nat :=
  (List.range n).foldl (fun acc i => if a.testBit i then acc ||| (b <<< (i * w)) else acc) 0

theorem pairsTo_succ (w a b n : Nat) :
    pairsTo w a b (n + 1) = if a.testBit n then pairsTo w a b n ||| (b <<< (n * w)) else pairsTo w a b n := by
  simp [pairsTo, List.range_succ, List.foldl_append]

theorem pairs_sound (w a b i j : Nat) (ha : a.testBit i = true) (hi : i < w) (hb : b.testBit j = true) :
    (pairs w a b).testBit (i * w + j) = true := by
  suffices h : ∀ n, i < n → (pairsTo w a b n).testBit (i * w + j) = true from h w hi
  intro n hn
  induction n with
  | zero => omega
  | succ n ih =>
    rw [pairsTo_succ]
    by_cases h : i = n
    · subst h; simp [ha, Nat.testBit_or, Nat.testBit_shiftLeft, hb]
    · have := ih (by omega)
      split <;> simp [Nat.testBit_or, this]

theorem iterTbl_length (cls : List Pat) (gram : Nat → G) (k : Nat) (t : List Sm) :
    (iterTbl cls gram k t).length = t.length := by
  induction k generalizing t with
  | zero => rfl
  | succ k ih => rw [iterTbl, ih]; simp [stepTbl]

theorem sub_iff {x y : Nat} : sub x y = true ↔ ∀ k, x.testBit k = true → y.testBit k = true := by
  simp only [sub, beq_iff_eq]
  constructor
  · intro e k hx
    have := congrArg (fun z => Nat.testBit z k) e
    simpa [hx] using this
  · intro h
    refine Nat.eq_of_testBit_eq fun i => ?_
    rw [Nat.testBit_and]
    cases hx : x.testBit i
    · rfl
    · rw [h i hx]; rfl

theorem sub_or_left (x y : Nat) : sub x (x ||| y) = true := sub_iff.2 fun k h => by simp [Nat.testBit_or, h]

theorem sub_or_right (x y : Nat) : sub y (x ||| y) = true := sub_iff.2 fun k h => by simp [Nat.testBit_or, h]

theorem Sm.le_alt_left (a b : Sm) : a.le (a.alt b) = true := by
  cases h : a.nullable <;> simp [Sm.le, Sm.alt, sub_or_left, h]

theorem Sm.le_alt_right (a b : Sm) : b.le (a.alt b) = true := by
  cases h : b.nullable <;> simp [Sm.le, Sm.alt, sub_or_right, h]

/-- one more round of `a` before `a.star` adds nothing to `a.star` -/
theorem Sm.seq_star_le (w : Nat) (a : Sm) : (a.seq w (a.star w)).le (a.star w) = true := by
  simp only [Sm.le, Sm.seq, Sm.star, Bool.and_eq_true, sub_iff, Nat.testBit_or]
  refine ⟨⟨⟨by simp, fun k => ?_⟩, fun k => ?_⟩, fun k => ?_⟩
  · cases a.nullable <;> simp
  · simp
  · simp only [Bool.or_eq_true]; rintro ((h | h | h) | h) <;> simp [h]

theorem Ok.mono {cls : List Pat} {a b : Sm} {u : List Tok} (hle : a.le b = true) (h : Ok cls a u) : Ok cls b u := by
  simp only [Sm.le, Bool.and_eq_true, Bool.or_eq_true, Bool.not_eq_true', sub_iff] at hle
  obtain ⟨⟨⟨hn, hf⟩, hl⟩, hadj⟩ := hle
  refine ⟨fun hu => hn.resolve_left (by simp [h.null hu]), fun t ht => ?_, fun t ht => ?_, fun i x y hx hy => ?_⟩
  · obtain ⟨p, hp, hb⟩ := h.first t ht
    exact ⟨p, hp, hf _ hb⟩
  · obtain ⟨p, hp, hb⟩ := h.last t ht
    exact ⟨p, hp, hl _ hb⟩
  · obtain ⟨p, q, hp, hq, hb⟩ := h.adj i x y hx hy
    exact ⟨p, q, hp, hq, hadj _ hb⟩

theorem Ok.nil (cls : List Pat) {a : Sm} (h : a.nullable = true) : Ok cls a [] :=
  ⟨fun _ => h, by simp, by simp, by simp⟩

theorem Ok.seq {cls : List Pat} {a b : Sm} {u v : List Tok} (ha : Ok cls a u) (hb : Ok cls b v) :
    Ok cls (a.seq (cls.length + 1) b) (u ++ v) := by
  refine ⟨?_, ?_, ?_, ?_⟩
  · intro h
    have h' := List.append_eq_nil_iff.1 h
    simp [Sm.seq, ha.null h'.1, hb.null h'.2]
  · intro t ht
    rw [List.head?_append, Option.or_eq_some_iff] at ht
    rcases ht with ht | ⟨hu, ht⟩
    · obtain ⟨p, hp, hbit⟩ := ha.first t ht
      exact ⟨p, hp, by simp [Sm.seq, Nat.testBit_or, hbit]⟩
    · obtain ⟨p, hp, hbit⟩ := hb.first t ht
      exact ⟨p, hp, by simp [Sm.seq, Nat.testBit_or, hbit, ha.null (List.head?_eq_none_iff.1 hu)]⟩
  · intro t ht
    rw [List.getLast?_append, Option.or_eq_some_iff] at ht
    rcases ht with ht | ⟨hv, ht⟩
    · obtain ⟨p, hp, hbit⟩ := hb.last t ht
      exact ⟨p, hp, by simp [Sm.seq, Nat.testBit_or, hbit]⟩
    · obtain ⟨p, hp, hbit⟩ := ha.last t ht
      exact ⟨p, hp, by simp [Sm.seq, Nat.testBit_or, hbit, hb.null (List.getLast?_eq_none_iff.1 hv)]⟩
  · intro i x y hx hy
    rcases neighbours_append hx hy with ⟨hx, hy⟩ | ⟨hx, hy⟩ | ⟨j, hx, hy⟩
    · obtain ⟨p, q, hp, hq, hbit⟩ := ha.adj i x y hx hy
      exact ⟨p, q, hp, hq, by simp [Sm.seq, Nat.testBit_or, hbit]⟩
    · obtain ⟨p, hp, hpb⟩ := ha.last x hx
      obtain ⟨q, hq, hqb⟩ := hb.first y hy
      have := pairs_sound _ _ _ _ _ hpb (Nat.lt_succ_of_le (idx_le cls p)) hqb
      exact ⟨p, q, hp, hq, by simp [Sm.seq, Nat.testBit_or, this]⟩
    · obtain ⟨p, q, hp, hq, hbit⟩ := hb.adj j x y hx hy
      exact ⟨p, q, hp, hq, by simp [Sm.seq, Nat.testBit_or, hbit]⟩

theorem Ok.starCons {cls : List Pat} {a : Sm} {u v : List Tok} (ha : Ok cls a u)
    (hb : Ok cls (a.star (cls.length + 1)) v) : Ok cls (a.star (cls.length + 1)) (u ++ v) :=
  (ha.seq hb).mono (Sm.seq_star_le _ a)

theorem Ok.tok (cls : List Pat) (p : Pat) (t : Tok) (h : p.matches t = true) :
    Ok cls ⟨false, 1 <<< idx cls p, 1 <<< idx cls p, 0⟩ [t] := by
  have hbit : (1 <<< idx cls p).testBit (idx cls p) = true := by simp [Nat.one_shiftLeft, Nat.testBit_two_pow_self]
  refine ⟨by simp, fun t' ht => ?_, fun t' ht => ?_, fun i x y _ hy => by simp at hy⟩
  · obtain rfl : t = t' := by simpa using ht
    exact ⟨p, h, hbit⟩
  · obtain rfl : t = t' := by simpa using ht
    exact ⟨p, h, hbit⟩

theorem lang_ok (cls : List Pat) (gram : Nat → G) (tbl : List Sm) (hc : closed cls gram tbl = true)
    (hb : ∀ n, tbl.length ≤ n → gram n = .notAhead .eps) (g : G) (u : List Tok) (h : Lang gram g u) :
    Ok cls (summ cls (tblOf tbl) g) u := by
  induction h with
  | eps | starNil | prevTokIs | notAhead => exact Ok.nil cls rfl
  | tok p t hm => exact Ok.tok cls p t hm
  | seq _ _ ih1 ih2 | chain _ _ ih1 ih2 => exact Ok.seq ih1 ih2
  | altL _ ih => exact ih.mono (Sm.le_alt_left _ _)
  | altR _ ih => exact ih.mono (Sm.le_alt_right _ _)
  | starCons _ _ ih1 ih2 => exact Ok.starCons ih1 ih2
  | @nt n u h1 ih =>
    by_cases hn : n < tbl.length
    · simp only [closed, List.all_eq_true, List.mem_range] at hc
      exact ih.mono (hc n hn)
    · -- beyond the table the grammar accepts the empty word only, and the table's default is nullable
      have hn' := Nat.le_of_not_lt hn
      rw [hb n hn'] at h1
      cases h1
      exact Ok.nil cls (by simp [summ, tblOf, List.getD, List.getElem?_eq_none hn', Sm.eps])
  | hard _ ih | node _ ih | fence _ ih | filterTop _ ih => exact ih

/-- **adjacency soundness** (every grammar): two tokens that are neighbours among the leaves of an accepted parse are
matched by a pair of patterns listed in the analysis of the start expression. -/
theorem run_adj (cls : List Pat) (gram : Nat → G) (tbl : List Sm) (hc : closed cls gram tbl = true)
    (hb : ∀ n, tbl.length ≤ n → gram n = .notAhead .eps)
    (toks : Array Tok) (fuel : Nat) (g : G) (st st' : PSt) (ts : List Tree)
    (h : run gram toks fuel g st = .ok (some (ts, st'))) :
    ∀ i a b, (toksAt toks (leavesL ts))[i]? = some a → (toksAt toks (leavesL ts))[i + 1]? = some b →
      ∃ p q, p.matches a = true ∧ q.matches b = true ∧
        (summ cls (tblOf tbl) g).adj.testBit (idx cls p * (cls.length + 1) + idx cls q) = true :=
  (lang_ok cls gram tbl hc hb g _ (run_lang gram toks fuel g st st' ts h)).adj

end Pico.Adj
