import PicoVerif.Lemmas.Basic
import PicoVerif.Lemmas.Bits
import PicoVerif.Model.Sections
/-! The section readers of `Model/Sections` give back what the writers wrote: per line, per list of
lines, per region. For an sfx note this rests on what `getNote` reads after each field write of `set_note`. -/
namespace Pico.Sections

theorem swapNibbles_digits (b : UInt8) :
    (swapNibbles b).toNat / 16 = b.toNat % 16 ∧ (swapNibbles b).toNat % 16 = b.toNat / 16 := by
  have hb := b.toNat_lt
  have lo := and_low_toNat b 0x0f 4 rfl
  have hi := field_toNat b 0xf0 4 4 4 rfl (by omega) rfl
  have := nibbles_toNat (b &&& 0x0f) ((b &&& 0xf0) >>> 4) (by omega) (by omega)
  rwa [lo, hi, Nat.mod_eq_of_lt (show b.toNat / 2 ^ 4 < 2 ^ 4 by omega)] at this

theorem swapPairs_toHex (row : Bytes) : swapPairs (toHex (row.map swapNibbles)) = toHex row := by
  induction row with
  | nil => rfl
  | cons b bs ih => simp only [List.map_cons, toHex, swapPairs, ih, swapNibbles_digits]

theorem gfxLine_enc (row : Bytes) (h : row.length = 64) :
    gfxLine (toHex (row.map swapNibbles) ++ [LF]) = .ok (some row) := by
  have hlen : (toHex (row.map swapNibbles)).length = 128 := by simp [toHex_length, h]
  unfold gfxLine
  rw [if_neg (by simp [hlen])]
  simp only [LF, rstrip_toHex_lf, hlen]
  rw [if_neg (by omega), if_neg (by simp)]
  simp only [swapPairs_toHex, fromHex_toHex]

theorem gfxFromLines_enc (rows : List Bytes) (h : ∀ r ∈ rows, r.length = 64) :
    gfxFromLines (rows.map fun row => toHex (row.map swapNibbles) ++ [LF]) = .ok rows.flatten := by
  induction rows with
  | nil => rfl
  | cons r rs ih =>
    obtain ⟨hr, hrs⟩ := List.forall_mem_cons.mp h
    simp only [List.map_cons, gfxFromLines, gfxLine_enc r hr, ih hrs]
    rfl

theorem gfxFromLines_gfxToLines (m : Bytes) (h : m.length = 0x2000) : gfxFromLines (gfxToLines m) = .ok m := by
  unfold gfxToLines
  rw [show Gen.hexLineLenGfx = 64 by rfl,
    gfxFromLines_enc _ (chunks_length_of_mem 64 128 (by omega) m (by omega)), chunks_flatten 64 (by omega)]

theorem gfxFromLines_blank (ls : List Bytes) : gfxFromLines (ls ++ [[LF]]) = gfxFromLines ls := by
  induction ls with
  | nil => rfl
  | cons l ls ih => simp only [List.cons_append, gfxFromLines, ih]

theorem hexFromLines_enc (rows : List Bytes) :
    hexFromLines (rows.map fun row => toHex row ++ [LF]) = .ok rows.flatten := by
  induction rows with
  | nil => rfl
  | cons r rs ih =>
    rw [List.map_cons, hexFromLines, show rstrip (toHex r ++ [LF]) = toHex r from rstrip_toHex_lf r, fromHex_toHex, ih]
    rfl

theorem hexFromLines_hexToLines (n : Nat) (hn : 0 < n) (m : Bytes) : hexFromLines (hexToLines n m) = .ok m := by
  unfold hexToLines
  rw [hexFromLines_enc, chunks_flatten n hn]

/-! ### sfx notes: the five digits in terms of the two bytes as numbers -/

theorem getNote_toNat {lsb msb p w v e : UInt8} (h : getNote lsb msb = (p, w, v, e)) :
    p.toNat = lsb.toNat % 64 ∧ w.toNat = lsb.toNat / 64 + 4 * (msb.toNat % 2 + 2 * (msb.toNat / 128)) ∧
    v.toNat = msb.toNat / 2 % 8 ∧ e.toNat = msb.toNat / 16 % 8 := by
  have hl := lsb.toNat_lt
  -- bits 7 and 0 of the second byte are bits 3 and 2 of the waveform
  have moved := forall_u8 (fun b =>
    (((b &&& 0x80) >>> 4) ||| ((b &&& 0x01) <<< 2)).toNat == 4 * (b.toNat % 2 + 2 * (b.toNat / 128)))
    (by decide +kernel) msb
  have low := field_toNat lsb 0xc0 6 6 2 rfl (by omega) rfl
  cases h
  refine ⟨and_low_toNat lsb 0x3f 6 rfl, ?_, field_toNat msb 0x0e 1 1 3 rfl (by omega) rfl,
    field_toNat msb 0x70 4 4 3 rfl (by omega) rfl⟩
  rw [UInt8.toNat_or, beq_iff_eq.mp moved, low, Nat.mul_comm 4, ← Nat.shiftLeft_eq _ 2,
    ← Nat.shiftLeft_add_eq_or_of_lt (by omega)]
  omega

theorem noteText_digits (lsb msb : UInt8) : noteText lsb msb =
    [hexDigit (lsb.toNat % 64 / 16), hexDigit (lsb.toNat % 64 % 16),
     hexDigit (lsb.toNat / 64 + 4 * (msb.toNat % 2 + 2 * (msb.toNat / 128))),
     hexDigit (msb.toNat / 2 % 8), hexDigit (msb.toNat / 16 % 8)] := by
  have hl := lsb.toNat_lt
  have hm := msb.toNat_lt
  rw [noteText]
  rcases hg : getNote lsb msb with ⟨p, w, v, e⟩
  obtain ⟨hp, hw, hv, he⟩ := getNote_toNat hg
  obtain ⟨h1, h2⟩ := nibbles_toNat w v (by omega) (by omega)
  simp only [toHex, List.cons_append, List.nil_append, h1, h2, hp, hw, hv, he]
  rw [Nat.mod_eq_of_lt (show msb.toNat / 16 % 8 < 16 by omega)]

theorem noteText_length (lsb msb : UInt8) : (noteText lsb msb).length = 5 := rfl

theorem notesText_length : ∀ l : Bytes, (notesText l).length = 5 * (l.length / 2)
  | [] | [_] => by simp [notesText]
  | _ :: _ :: t => by
    simp only [notesText, List.length_append, noteText_length, notesText_length t, List.length_cons]
    omega

/-! The five field writes of `set_note`, each skipped when its argument is `none`: pitch (`setP`); waveform, its low two bits
in the first byte (`setWL`) and its high two in the second (`setWM`); volume (`setV`); effect (`setE`). -/

def setP (x : UInt8) : Option Nat → UInt8
  | some p => (x &&& 0xc0) ||| p.toUInt8
  | none => x
def setWL (x : UInt8) : Option Nat → UInt8
  | some w => (x &&& 0x3f) ||| ((w.toUInt8 &&& 3) <<< (6 : UInt8))
  | none => x
def setWM (x : UInt8) : Option Nat → UInt8
  | some w => (x &&& 0x7e) ||| ((w.toUInt8 &&& 4) >>> (2 : UInt8)) ||| ((w.toUInt8 &&& 8) <<< (4 : UInt8))
  | none => x
def setV (x : UInt8) : Option Nat → UInt8
  | some v => (x &&& 0xf1) ||| (v.toUInt8 <<< (1 : UInt8))
  | none => x
def setE (x : UInt8) : Option Nat → UInt8
  | some e => (x &&& 0x8f) ||| (e.toUInt8 <<< (4 : UInt8))
  | none => x

/-! The shifted images of the field values alone: under which mask each lies and how it reads back. These are
facts about numbers below 16; the byte they are put into is the business of the bit-field lemmas. -/

theorem wave_image : ∀ w : Nat, w < 16 →
    (((w.toUInt8 &&& 4) >>> (2 : UInt8)) ||| ((w.toUInt8 &&& 8) <<< (4 : UInt8))) &&& 0x81 =
      ((w.toUInt8 &&& 4) >>> (2 : UInt8)) ||| ((w.toUInt8 &&& 8) <<< (4 : UInt8)) ∧
    (getNote ((w.toUInt8 &&& 3) <<< (6 : UInt8))
      (((w.toUInt8 &&& 4) >>> (2 : UInt8)) ||| ((w.toUInt8 &&& 8) <<< (4 : UInt8)))).2.1 = w.toUInt8 := by
  decide +kernel

theorem shl1_image : ∀ v : Nat, v < 8 → (v.toUInt8 <<< (1 : UInt8)) &&& 0x0e = v.toUInt8 <<< (1 : UInt8) ∧
    (v.toUInt8 <<< (1 : UInt8)) >>> 1 = v.toUInt8 := by decide +kernel

theorem shl4_image : ∀ v : Nat, v < 16 → (v.toUInt8 <<< (4 : UInt8)) &&& 0xf0 = v.toUInt8 <<< (4 : UInt8) ∧
    (v.toUInt8 <<< (4 : UInt8)) >>> (4 : UInt8) = v.toUInt8 ∧
    (v < 8 → (v.toUInt8 <<< (4 : UInt8)) &&& 0x70 = v.toUInt8 <<< (4 : UInt8)) := by decide +kernel

theorem getNote_setP {l m : UInt8} {p : Option Nat} (hp : p.getD 0 ≤ 63) :
    getNote (setP l p) m = ((p.map (·.toUInt8)).getD (getNote l m).1, (getNote l m).2) := by
  cases p with
  | none => rfl
  | some p =>
    have hv : p.toUInt8 &&& 0x3f = p.toUInt8 := toUInt8_and_low p 6 (Nat.lt_succ_of_le hp) (by omega)
    simp only [getNote, setP]
    rw [ins_and_cleared (m := 0x3f) (by decide), hv,
      ins_and_kept (m := 0xc0) (by decide) (and_eq_zero_of_disjoint hv (by decide))]
    rfl

/-- the waveform is spread over both bytes -/
theorem getNote_setW {l m : UInt8} {w : Option Nat} (hw : w.getD 0 ≤ 15) :
    getNote (setWL l w) (setWM m w) =
      ((getNote l m).1, (w.map (·.toUInt8)).getD (getNote l m).2.1, (getNote l m).2.2) := by
  cases w with
  | none => rfl
  | some w =>
    have l1 : ((w.toUInt8 &&& 3) <<< (6 : UInt8)) &&& 0xc0 = (w.toUInt8 &&& 3) <<< (6 : UInt8) := by
      rw [show (0xc0 : UInt8) = 3 <<< (6 : UInt8) from rfl, ← UInt8.shiftLeft_and, UInt8.and_assoc, UInt8.and_self]
    obtain ⟨m1, m2⟩ := wave_image w (Nat.lt_succ_of_le hw)
    -- reassociated to the shape `(x &&& k) ||| v` of `Lemmas/Bits`
    rw [show setWM m (some w) =
        (m &&& 0x7e) ||| (((w.toUInt8 &&& 4) >>> (2 : UInt8)) ||| ((w.toUInt8 &&& 8) <<< (4 : UInt8))) from
      UInt8.or_assoc _ _ _]
    simp only [getNote, setWL] at m2 ⊢
    rw [ins_and_kept (m := 0x3f) (by decide) (and_eq_zero_of_disjoint l1 (by decide)),
      ins_and_kept (m := 0x0e) (by decide) (and_eq_zero_of_disjoint m1 (by decide)),
      ins_and_kept (m := 0x70) (by decide) (and_eq_zero_of_disjoint m1 (by decide)),
      ins_and_cleared (m := 0x80) (by decide), ins_and_cleared (m := 0x01) (by decide),
      ins_and_cleared (m := 0xc0) (by decide), m2]
    rfl

theorem getNote_setV {l m : UInt8} {v : Option Nat} (hv : v.getD 0 ≤ 7) :
    getNote l (setV m v) =
      ((getNote l m).1, (getNote l m).2.1, (v.map (·.toUInt8)).getD (getNote l m).2.2.1, (getNote l m).2.2.2) := by
  cases v with
  | none => rfl
  | some v =>
    obtain ⟨h1, h2⟩ := shl1_image v (Nat.lt_succ_of_le hv)
    simp only [getNote, setV]
    rw [ins_and_kept (m := 0x80) (by decide) (and_eq_zero_of_disjoint h1 (by decide)),
      ins_and_kept (m := 0x01) (by decide) (and_eq_zero_of_disjoint h1 (by decide)),
      ins_and_kept (m := 0x70) (by decide) (and_eq_zero_of_disjoint h1 (by decide)),
      ins_and_cleared (m := 0x0e) (by decide), h1, h2]
    rfl

theorem getNote_setE {l m : UInt8} {e : Option Nat} (he : e.getD 0 ≤ 7) :
    getNote l (setE m e) =
      ((getNote l m).1, (getNote l m).2.1, (getNote l m).2.2.1, (e.map (·.toUInt8)).getD (getNote l m).2.2.2) := by
  cases e with
  | none => rfl
  | some e =>
    have he : e < 8 := Nat.lt_succ_of_le he
    obtain ⟨-, h2, h1⟩ := shl4_image e (by omega)
    have h1 := h1 he
    simp only [getNote, setE]
    rw [ins_and_kept (m := 0x80) (by decide) (and_eq_zero_of_disjoint h1 (by decide)),
      ins_and_kept (m := 0x01) (by decide) (and_eq_zero_of_disjoint h1 (by decide)),
      ins_and_kept (m := 0x0e) (by decide) (and_eq_zero_of_disjoint h1 (by decide)),
      ins_and_cleared (m := 0x70) (by decide), h1, h2]
    rfl

theorem byte_of_fields_low (l l' x x' : Nat) (hl : l < 256) (hl' : l' < 256) (h1 : l % 64 = l' % 64)
    (h2 : l / 64 + 4 * x = l' / 64 + 4 * x') : l = l' ∧ x = x' := by omega

theorem byte_of_fields_high (m m' : Nat) (hm : m < 256) (hm' : m' < 256)
    (h1 : m % 2 + 2 * (m / 128) = m' % 2 + 2 * (m' / 128)) (h2 : m / 2 % 8 = m' / 2 % 8)
    (h3 : m / 16 % 8 = m' / 16 % 8) : m = m' := by omega

theorem getNote_inj {l m l' m' : UInt8} (h : getNote l m = getNote l' m') : l = l' ∧ m = m' := by
  rcases hg : getNote l m with ⟨p, w, v, e⟩
  obtain ⟨a1, a2, a3, a4⟩ := getNote_toNat hg
  obtain ⟨b1, b2, b3, b4⟩ := getNote_toNat (h ▸ hg)
  obtain ⟨e1, e2⟩ := byte_of_fields_low _ _ _ _ l.toNat_lt l'.toNat_lt (a1.symm.trans b1) (a2.symm.trans b2)
  exact ⟨UInt8.toNat_inj.mp e1, UInt8.toNat_inj.mp
    (byte_of_fields_high _ _ m.toNat_lt m'.toNat_lt e2 (a3.symm.trans b3) (a4.symm.trans b4))⟩

theorem setNote_getNote {lsb msb p w v e : UInt8} (h : getNote lsb msb = (p, w, v, e)) :
    setNote 0 0 p.toNat w.toNat v.toNat e.toNat = some (lsb, msb) := by
  obtain ⟨hp, hw, hv, he⟩ := getNote_toNat h
  have := lsb.toNat_lt
  have := msb.toNat_lt
  have key : getNote (setWL (setP 0 (some p.toNat)) (some w.toNat))
      (setE (setV (setWM 0 (some w.toNat)) (some v.toNat)) (some e.toNat)) = getNote lsb msb := by
    rw [getNote_setE (by simp; omega), getNote_setV (by simp; omega), getNote_setW (by simp; omega),
      getNote_setP (by simp; omega), h]
    simp only [Option.map_some, Option.getD_some, Nat.toUInt8_eq, UInt8.ofNat_toNat]
  obtain ⟨a, b⟩ := getNote_inj key
  unfold setNote
  rw [if_neg (by omega)]
  exact congrArg some (Prod.ext a b)

theorem hexInt_one (a : Nat) (ha : a < 16) : hexInt [hexDigit a] = some a := by
  simp [hexInt, List.foldlM, unhex_hexDigit a ha]

theorem hexInt_two (n : Nat) (hn : n < 256) : hexInt [hexDigit (n / 16), hexDigit (n % 16)] = some n := by
  simp only [hexInt, List.foldlM, unhex_hexDigit (n / 16) (by omega), unhex_hexDigit (n % 16) (by omega)]
  exact congrArg some (show (0 * 16 + n / 16) * 16 + n % 16 = n by omega)

theorem parseNotes_noteText (n : Nat) (lsb msb : UInt8) (rest : Bytes) :
    parseNotes (n + 1) (noteText lsb msb ++ rest) =
      (do let r ← parseNotes n rest; pure (lsb :: msb :: r)) := by
  have hl := lsb.toNat_lt
  have hm := msb.toNat_lt
  rcases hg : getNote lsb msb with ⟨p, w, v, e⟩
  obtain ⟨hp, hw, hv, he⟩ := getNote_toNat hg
  rw [noteText_digits, ← hp, ← hw, ← hv, ← he]
  simp only [parseNotes, List.cons_append, List.nil_append, List.take, List.drop]
  rw [hexInt_two _ (by omega), hexInt_one _ (by omega), hexInt_one _ (by omega), hexInt_one _ (by omega)]
  simp only []
  rw [setNote_getNote hg]

theorem parseNotes_notesText : ∀ (n : Nat) (l rest : Bytes), l.length = 2 * n →
    parseNotes n (notesText l ++ rest) = .ok l
  | 0, [], _, _ => rfl
  | 0, _ :: _, _, h | _ + 1, [], _, h | _ + 1, [_], _, h => by
    simp only [List.length_cons, List.length_nil] at h
    omega
  | n + 1, lsb :: msb :: t, rest, h => by
    rw [notesText, List.append_assoc, parseNotes_noteText, parseNotes_notesText n t rest (by simp at h; omega)]
    rfl

theorem sfxLine_enc (pat : Bytes) (h : pat.length = 68) : sfxLine (sfxPatternLine pat) = .ok (some pat) := by
  obtain ⟨nts, hdr, rfl, hn, hd⟩ : ∃ nts hdr, pat = nts ++ hdr ∧ nts.length = 64 ∧ hdr.length = 4 :=
    ⟨_, _, (List.take_append_drop 64 pat).symm, by simp [h], by simp [h]⟩
  match hdr, hd with
  | [a, b, c, d], _ =>
    rw [sfxPatternLine, List.drop_left' hn, List.take_left' hn, sfxLine,
      if_neg (by simp [toHex_length, notesText_length, hn])]
    simp only [toHex, List.cons_append, List.nil_append, List.take, List.drop, hexInt_two _ (UInt8.toNat_lt _),
      parseNotes_notesText 32 nts [LF] hn, Nat.toUInt8_eq, UInt8.ofNat_toNat]
    rfl

theorem sfxPatterns_enc (rows : List Bytes) (h : ∀ r ∈ rows, r.length = 68) :
    sfxPatterns (rows.map sfxPatternLine) = .ok rows := by
  induction rows with
  | nil => rfl
  | cons r rs ih =>
    obtain ⟨hr, hrs⟩ := List.forall_mem_cons.mp h
    simp only [List.map_cons, sfxPatterns, sfxLine_enc r hr, ih hrs]
    rfl

theorem emptySfx_length : Gen.emptySfx.length = 4352 := by decide +kernel

theorem sfxToLines_eq (m : Bytes) (h : m.length = 0x1100) :
    sfxToLines m = some ((chunks 68 m).map sfxPatternLine) := by
  unfold sfxToLines
  rw [if_neg (by omega), List.take_of_length_le (by omega)]

theorem sfxFromLines_enc (m : Bytes) (h : m.length = 0x1100) :
    sfxFromLines ((chunks 68 m).map sfxPatternLine) = .ok m := by
  unfold sfxFromLines
  rw [sfxPatterns_enc _ (chunks_length_of_mem 68 64 (by omega) m (by omega))]
  simp only [bind, Except.bind]
  rw [if_neg (by rw [chunks_length 68 64 (by omega) m (by omega)]; omega), chunks_flatten 68 (by omega),
    List.drop_of_length_le (by rw [emptySfx_length]; omega)]
  simp [pure, Except.pure]

def hiBit (c : UInt8) : UInt8 := (c &&& 128) >>> 7

theorem hiBit_toNat (c : UInt8) : (hiBit c).toNat = c.toNat / 128 := by
  have hc := c.toNat_lt
  rw [hiBit, field_toNat c 128 7 7 1 rfl (by omega) rfl]
  omega

theorem hiBit_cases (c : UInt8) : hiBit c = 0 ∨ hiBit c = 1 := by
  have hc := c.toNat_lt
  simp only [← UInt8.toNat_inj, hiBit_toNat, UInt8.toNat_zero, UInt8.toNat_one]
  omega

theorem low7_or_hiBit (c : UInt8) : (c &&& (127 : UInt8)) ||| (hiBit c <<< (7 : UInt8)) = c := by
  have hc := c.toNat_lt
  have lo := and_low_toNat c 127 7 rfl
  rw [← UInt8.toNat_inj, UInt8.or_comm, shl_or_toNat _ _ 7 7 rfl (by omega) (by rw [hiBit_toNat]; omega) (by omega),
    hiBit_toNat, lo]
  omega

theorem flags_bits (x y z : UInt8) (hx : x = 0 ∨ x = 1) (hy : y = 0 ∨ y = 1) (hz : z = 0 ∨ z = 1) :
    ((z <<< 2) ||| (y <<< 1) ||| x) &&& 1 = x ∧ (((z <<< 2) ||| (y <<< 1) ||| x) &&& 2) >>> 1 = y ∧
    (((z <<< 2) ||| (y <<< 1) ||| x) &&& 4) >>> 2 = z ∧
    ((z <<< 2) ||| (y <<< 1) ||| x).toNat = x.toNat + 2 * y.toNat + 4 * z.toNat := by
  rcases hx with rfl | rfl <;> rcases hy with rfl | rfl <;> rcases hz with rfl | rfl <;> decide

/-- the line `musicToLines` writes for one pattern -/
def musicEnc (c1 c2 c3 c4 : UInt8) : Bytes :=
  toHex [(hiBit c3 <<< 2) ||| (hiBit c2 <<< 1) ||| hiBit c1] ++ [32] ++
    toHex [c1 &&& 127, c2 &&& 127, c3 &&& 127, c4 &&& 127] ++ [LF]

theorem musicToLines_cons (c1 c2 c3 c4 : UInt8) (rest : Bytes) :
    musicToLines (c1 :: c2 :: c3 :: c4 :: rest) =
      (musicToLines rest).map fun t => musicEnc c1 c2 c3 c4 :: t := rfl

theorem hexByte0_enc (a : UInt8) :
    hexByte0 [hexDigit (a.toNat / 16), hexDigit (a.toNat % 16)] = .ok a := by
  have ha := a.toNat_lt
  simp only [hexByte0, unhex_hexDigit _ (show a.toNat / 16 < 16 by omega),
    unhex_hexDigit _ (show a.toNat % 16 < 16 by omega), toUInt8_nibbles]

theorem space_not_mem_toHex (l : Bytes) : (32 : UInt8) ∉ toHex l :=
  fun h => absurd (toHex_isHexChar l 32 h) (by decide)

theorem split_at_space (f ch : Bytes) (hf : (32 : UInt8) ∉ f) :
    (f ++ 32 :: ch).takeWhile (· != 32) = f ∧ ((f ++ 32 :: ch).dropWhile (· != 32)).drop 1 = ch := by
  have : ∀ x ∈ f, (x != 32) = true := fun x hx => bne_iff_ne.mpr (fun e => hf (e ▸ hx))
  rw [List.takeWhile_append_of_pos this, List.dropWhile_append_of_pos this]
  simp

theorem musicLine_enc (fl a b c d : UInt8) :
    musicLine (toHex [fl] ++ [32] ++ toHex [a, b, c, d] ++ [LF]) =
      .ok (some [a ||| ((fl &&& 1) <<< 7), b ||| (((fl &&& 2) >>> 1) <<< 7),
        c ||| (((fl &&& 4) >>> 2) <<< 7), d]) := by
  have hc : (toHex [a, b, c, d] ++ [LF]).contains 32 = false := by
    simp [space_not_mem_toHex, LF]
  obtain ⟨h1, h2⟩ := split_at_space (toHex [fl]) (toHex [a, b, c, d] ++ [LF]) (space_not_mem_toHex _)
  unfold musicLine
  rw [List.append_assoc, List.append_assoc, if_neg (by simp)]
  simp only [List.singleton_append, h1, h2, hc, fromHex_toHex]
  simp only [toHex, pySlice, List.cons_append, List.take, List.drop, hexByte0_enc]
  rfl

theorem musicLine_musicEnc (c1 c2 c3 c4 : UInt8) :
    musicLine (musicEnc c1 c2 c3 c4) = .ok (some [c1, c2, c3, c4 &&& 127]) := by
  unfold musicEnc
  rw [musicLine_enc]
  obtain ⟨f1, f2, f3, _⟩ := flags_bits _ _ _ (hiBit_cases c1) (hiBit_cases c2) (hiBit_cases c3)
  rw [f1, f2, f3, low7_or_hiBit, low7_or_hiBit, low7_or_hiBit]

theorem musicFromLines_musicToLines : ∀ (m : Bytes), m.length % 4 = 0 →
    ∃ ls, musicToLines m = some ls ∧ musicFromLines ls = .ok (musicNorm m) ∧
      ∀ b ∈ ls, ∃ c1 c2 c3 c4, b = musicEnc c1 c2 c3 c4
  | [], _ => ⟨[], rfl, rfl, nofun⟩
  | [_], h | [_, _], h | [_, _, _], h => by simp at h
  | a :: b :: c :: d :: rest, h => by
    obtain ⟨ls, h1, h2, h3⟩ := musicFromLines_musicToLines rest (by simp at h; omega)
    refine ⟨musicEnc a b c d :: ls, by rw [musicToLines_cons, h1]; rfl, ?_,
      List.forall_mem_cons.mpr ⟨⟨a, b, c, d, rfl⟩, h3⟩⟩
    rw [musicFromLines, musicLine_musicEnc, h2]
    rfl

theorem musicFromLines_blank (ls : List Bytes) : musicFromLines (ls ++ [[LF]]) = musicFromLines ls := by
  induction ls with
  | nil => rfl
  | cons l ls ih => simp only [List.cons_append, musicFromLines, ih]

theorem musicToLines_norm (m : Bytes) : musicToLines (musicNorm m) = musicToLines m := by
  fun_induction musicNorm m with
  | case1 c1 c2 c3 c4 rest ih => simp only [musicToLines, ih, UInt8.and_assoc, UInt8.and_self]
  | case2 l _ => rfl

theorem musicNorm_length (m : Bytes) : (musicNorm m).length = m.length := by
  fun_induction musicNorm m with
  | case1 c1 c2 c3 c4 rest ih => simp [ih]
  | case2 l _ => rfl

end Pico.Sections
