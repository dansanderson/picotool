import PicoVerif.Lemmas.LexCore
/-! Lemmas about the lexer state machine of `Model/Lexer`, shared by the properties that speak of it: positions,
the escape decoder and the string loop with its canonical fuel, the bracket search, what one step does in each
mode, a line processed with its canonical fuel, and `lex_cover`: the induction over a successful run, generic in the
fact established per token. -/

namespace Pico.C07
open Pico.Lex

/-- `s` starts a long bracket `[=*[` -/
def longOpen (s : Bytes) : Bool :=
  match s with
  | 91 :: r => (r.drop (spanLen (· == 61) r)).head? == some 91
  | _ => false

/-- the source does not start one of the multi-line constructs handled before the pattern table -/
def PlainStart (s : Bytes) : Prop :=
  [45, 45, 91, 91].isPrefixOf s = false ∧ s.head? ≠ some 34 ∧ s.head? ≠ some 39 ∧ longOpen s = false

end Pico.C07

namespace Pico.LexL
open Pico.Lex Pico.Spec.Lex

theorem posAfter_append (l c : Nat) (a b : Bytes) :
    posAfter l c (a ++ b) = posAfter (posAfter l c a).1 (posAfter l c a).2 b := by
  simp [posAfter, List.foldl_append]

theorem advance_eq (st : LexSt) (cs : Bytes) :
    advance st cs = { st with line := (posAfter st.line st.col cs).1, col := (posAfter st.line st.col cs).2 } := by
  induction cs generalizing st with
  | nil => rfl
  | cons c cs ih =>
    simp only [advance, posAfter, List.foldl_cons] at ih ⊢
    rw [ih]
    split <;> rfl

theorem escapeAt_bounds {rest bs : Bytes} {n : Nat} (h : escapeAt rest = some (bs, n)) :
    1 ≤ n ∧ n ≤ 1 + rest.length := by
  unfold escapeAt at h
  have h1 := spanLen_le isDigit rest
  simp only at h
  split at h
  · split at h
    · cases h
    · cases h; omega
  · split at h
    · next x h1 h2 _ =>
      simp only [List.length_cons]
      split at h
      · cases h; omega
      · split at h <;> (cases h; omega)
    · next x t _ =>
      simp only [List.length_cons]
      split at h <;> (cases h; omega)
    · cases h; omega

/-- the escape decoder does not look past a byte that is neither a digit nor a hexadecimal digit nor `x` -/
theorem escapeAt_ext (t : UInt8) (hd : isDigit t = false) (hh : isHexDigit t = false) (ht : t ≠ 120)
    (a x y : Bytes) : escapeAt (a ++ t :: x) = escapeAt (a ++ t :: y) := by
  have hnd : min 3 (spanLen isDigit a) ≤ a.length := Nat.le_trans (Nat.min_le_right _ _) (spanLen_le _ _)
  unfold escapeAt
  simp only [spanLen_stop _ t hd, List.take_append_of_le_length hnd]
  split
  · rfl
  · rcases a with _ | ⟨c, _ | ⟨d, _ | ⟨e, a'⟩⟩⟩
    · rcases x with _ | ⟨_, _ | _⟩ <;> rcases y with _ | ⟨_, _ | _⟩ <;> simp [ht]
    · cases x <;> cases y <;> simp [hh]
    · simp [hh]
    · simp

theorem strLoop_fuel (delim : UInt8) (f1 f2 : Nat) (s acc : Bytes) (i : Nat)
    (h1 : s.length + 1 ≤ f1) (h2 : s.length + 1 ≤ f2) :
    strLoop delim f1 s acc i = strLoop delim f2 s acc i := by
  induction f1 generalizing f2 s acc i with
  | zero => omega
  | succ g1 ih =>
    obtain ⟨g2, rfl⟩ : ∃ g2, f2 = g2 + 1 := ⟨f2 - 1, by omega⟩
    cases s with
    | nil => simp [strLoop]
    | cons c rest =>
      simp only [strLoop]
      simp only [List.length_cons] at h1 h2
      split
      · rfl
      · split
        · cases he : escapeAt rest with
          | none => rfl
          | some bn =>
            obtain ⟨bs, n⟩ := bn
            have := (escapeAt_bounds he).1
            simp only
            apply ih <;> simp only [List.length_drop, List.length_cons] <;> omega
        · apply ih <;> omega

/-- the string loop with its canonical fuel -/
def sl (delim : UInt8) (s acc : Bytes) (i : Nat) : Except Err (Bool × Bytes × Nat) :=
  strLoop delim (s.length + 1) s acc i

theorem sl_nil (delim : UInt8) (acc : Bytes) (i : Nat) : sl delim [] acc i = .ok (false, acc, i) := rfl

theorem sl_cons (delim c : UInt8) (rest acc : Bytes) (i : Nat) :
    sl delim (c :: rest) acc i =
      if c = delim then .ok (true, acc, i + 1)
      else if c = 92 then
        match escapeAt rest with
        | none => .error .value
        | some (bs, n) => sl delim ((c :: rest).drop n) (acc ++ bs) (i + n)
      else sl delim rest (acc ++ [c]) (i + 1) := by
  show strLoop delim ((rest.length + 1) + 1) (c :: rest) acc i = _
  rw [strLoop]
  split
  · rfl
  · split
    · cases he : escapeAt rest with
      | none => rfl
      | some bn =>
        obtain ⟨bs, n⟩ := bn
        have := (escapeAt_bounds he).1
        simp only
        apply strLoop_fuel <;> simp only [List.length_drop, List.length_cons] <;> omega
    · rfl

theorem sl_end {delim : UInt8} {s acc : Bytes} {i : Nat} {b : Bool} {acc' : Bytes} {i' : Nat}
    (h : sl delim s acc i = .ok (b, acc', i')) :
    (b = false → i' = i + s.length) ∧ (b = true → ∃ k, i' = i + k + 1 ∧ s[k]? = some delim) := by
  induction hn : s.length using Nat.strongRecOn generalizing s acc i with
  | _ n ih =>
    subst hn
    cases s with
    | nil => rw [sl_nil] at h; cases h; simp
    | cons c rest =>
      rw [sl_cons] at h
      simp only [List.length_cons] at ih ⊢
      split at h
      · next hc => cases h; exact ⟨by simp, fun _ => ⟨0, rfl, by rw [hc]; rfl⟩⟩
      · split at h
        · cases he : escapeAt rest with
          | none => rw [he] at h; cases h
          | some bn =>
            obtain ⟨bs, m⟩ := bn
            rw [he] at h
            obtain ⟨hm1, hm2⟩ := escapeAt_bounds he
            have hl : ((c :: rest).drop m).length = rest.length + 1 - m := by simp
            have := ih _ (by omega) h rfl
            exact ⟨fun hb => by have := this.1 hb; omega, fun hb => by
              obtain ⟨k, hk, hg⟩ := this.2 hb
              exact ⟨m + k, by omega, by rw [← hg, List.getElem?_drop]⟩⟩
        · have := ih _ (Nat.lt_succ_self _) h rfl
          exact ⟨fun hb => by have := this.1 hb; omega, fun hb => by
            obtain ⟨k, hk, hg⟩ := this.2 hb
            exact ⟨k + 1, by omega, hg⟩⟩

def Ends (t : UInt8) (s : Bytes) : Prop := s = [] ∨ ∃ a, s = a ++ [t]

theorem Ends.drop {t : UInt8} {s : Bytes} (h : Ends t s) (n : Nat) : Ends t (s.drop n) := by
  rcases h with rfl | ⟨a, rfl⟩
  · simp [Ends]
  · by_cases hn : n ≤ a.length
    · right; exact ⟨a.drop n, by rw [List.drop_append_of_le_length hn]⟩
    · left; apply List.drop_eq_nil_of_le; simp; omega

theorem Ends.tail {t c : UInt8} {s : Bytes} (h : Ends t (c :: s)) : Ends t s := by
  have := h.drop 1; simpa using this

/-- continue the string loop on the next chunk if the string is still open -/
def contStr (delim : UInt8) (rest : Bytes) : Except Err (Bool × Bytes × Nat) → Except Err (Bool × Bytes × Nat)
  | .error e => .error e
  | .ok (true, acc, i) => .ok (true, acc, i)
  | .ok (false, acc, i) => sl delim rest acc i

/-- the string loop may be cut after a byte `t` that is not a backslash and at which the escape decoder stops -/
theorem sl_chunk (delim t : UInt8) (hd : isDigit t = false) (hh : isHexDigit t = false) (ht : t ≠ 120) (hb : t ≠ 92)
    (s rest acc : Bytes) (i : Nat) (hs : Ends t s) :
    sl delim (s ++ rest) acc i = contStr delim rest (sl delim s acc i) := by
  induction hn : s.length using Nat.strongRecOn generalizing s acc i with
  | _ n ih =>
    subst hn
    cases s with
    | nil => rfl
    | cons c s' =>
      rw [List.cons_append, sl_cons, sl_cons]
      split
      · rfl
      · split
        · next hc =>
          -- a backslash is not the last byte of the chunk, and its escape ends inside the chunk
          rcases hs.tail with rfl | ⟨a, rfl⟩
          · rcases hs with h | ⟨a, h⟩
            · cases h
            · have := congrArg List.getLast? h
              simp [hc, Ne.symm hb] at this
          · rw [List.append_assoc, List.singleton_append, escapeAt_ext t hd hh ht a rest []]
            cases he : escapeAt (a ++ [t]) with
            | none => rfl
            | some bn =>
              obtain ⟨bs, m⟩ := bn
              obtain ⟨hm1, hm2⟩ := escapeAt_bounds he
              have hle : m ≤ (c :: (a ++ [t])).length := by simp only [List.length_cons]; omega
              simp only
              rw [show c :: (a ++ t :: rest) = (c :: (a ++ [t])) ++ rest by simp,
                List.drop_append_of_le_length hle]
              exact ih _ (by simp only [List.length_drop, List.length_cons]; omega) _ _ _ (hs.drop m) rfl
        · exact ih _ (Nat.lt_succ_self _) _ _ _ hs.tail rfl

theorem findSub_shift (pat s : Bytes) (i j : Nat) :
    findSub pat s (i + j) = (findSub pat s i).map (· + j) := by
  induction s generalizing i with
  | nil => simp only [findSub]; split <;> simp
  | cons c rest ih =>
    simp only [findSub]
    split
    · simp
    · rw [show i + j + 1 = i + 1 + j by omega, ih]

theorem findSub_spec {pat s : Bytes} {i k : Nat} (h : findSub pat s i = some k) :
    i ≤ k ∧ k - i + pat.length ≤ s.length ∧ pat.isPrefixOf (s.drop (k - i)) = true := by
  induction s generalizing i with
  | nil =>
    simp only [findSub] at h
    split at h
    · next hp =>
      cases h
      have : pat = [] := by simpa using hp
      simp [this]
    · cases h
  | cons c rest ih =>
    simp only [findSub] at h
    split at h
    · next hp =>
      cases h
      have := (List.isPrefixOf_iff_prefix.mp hp).length_le
      exact ⟨Nat.le_refl _, by omega, by simpa using hp⟩
    · obtain ⟨h1, h2, h3⟩ := ih h
      refine ⟨by omega, by simp only [List.length_cons]; omega, ?_⟩
      rw [show k - i = (k - (i + 1)) + 1 by omega, List.drop_succ_cons]; exact h3

theorem findSub_take {pat s : Bytes} {k : Nat} (h : findSub pat s 0 = some k) :
    s.take (k + pat.length) = s.take k ++ pat := by
  have hp : pat.isPrefixOf (s.drop k) = true := (findSub_spec h).2.2
  rw [List.isPrefixOf_iff_prefix, List.prefix_iff_eq_take] at hp
  rw [List.take_add, ← hp]

/-- the first occurrence found in `s` is found again when everything after it is replaced -/
theorem findSub_stab (pat s : Bytes) (k : Nat) (hp : pat ≠ []) (h : findSub pat s 0 = some k) (z : Bytes) :
    findSub pat (s.take (k + pat.length) ++ z) 0 = some k := by
  suffices ∀ i, findSub pat s i = some k → findSub pat (s.take (k - i + pat.length) ++ z) i = some k from this 0 h
  clear h
  induction s with
  | nil =>
    intro i h
    simp only [findSub] at h
    split at h
    · rename_i he; exact absurd (by simpa using he) hp
    · cases h
  | cons c rest ih =>
    intro i h
    have hpl : 0 < pat.length := List.length_pos_iff.mpr hp
    have hlen := (findSub_spec h).2.1
    have hpre := prefix_take_append pat (c :: rest) z (k - i + pat.length) (by omega) hlen
    rw [show k - i + pat.length = (k - i + pat.length - 1) + 1 by omega, List.take_succ_cons] at hpre ⊢
    simp only [List.cons_append] at hpre ⊢
    simp only [findSub, hpre] at h ⊢
    split at h
    · rename_i hyp
      cases h; rw [if_pos hyp]
    · rename_i hnp
      have := (findSub_spec h).1
      rw [if_neg hnp, show k - i + pat.length - 1 = k - (i + 1) + pat.length by omega]
      exact ih _ h

inductive Start
  /-- `--[[` -/
  | longComment
  /-- `[`, `n` times `=`, `[` -/
  | longString (n : Nat)
  | quote (q : UInt8)
  | plain
  deriving DecidableEq

def start (s : Bytes) : Start :=
  if [45, 45, 91, 91].isPrefixOf s then .longComment
  else match s with
    | [] => .plain
    | c :: r =>
      if c = 91 ∧ (r.drop (spanLen (· == 61) r)).head? = some 91 then .longString (spanLen (· == 61) r)
      else if c = 39 ∨ c = 34 then .quote c
      else .plain

def Start.len : Start → Nat
  | .longComment => 4
  | .longString n => n + 2
  | .quote _ => 1
  | .plain => 0

def Start.text : Start → Bytes
  | .longComment => [45, 45, 91, 91]
  | .longString n => 91 :: (List.replicate n 61 ++ [91])
  | .quote q => [q]
  | .plain => []

def Start.mode (st : Start) (l c : Nat) : Mode :=
  match st with
  | .longComment => .inComment l c [45, 45, 91, 91]
  | .longString n => .inLong (List.replicate n 61) l c []
  | .quote q => .inStr q l c []
  | .plain => .normal

theorem Start.mode_normal {st : Start} {l c : Nat} : st.mode l c = .normal ↔ st = .plain := by
  cases st <;> simp [Start.mode]

theorem start_plain_iff (s : Bytes) : start s = .plain ↔ C07.PlainStart s := by
  unfold start C07.PlainStart C07.longOpen
  by_cases h0 : [45, 45, 91, 91].isPrefixOf s = true
  · simp [h0]
  · cases s with
    | nil => simp
    | cons c r =>
      by_cases h91 : c = 91
      · subst h91; simp [h0]
      · simp only [h0, Bool.false_eq_true, if_false, h91, false_and, List.head?_cons, ne_eq, Option.some.injEq,
          true_and]
        by_cases hq : c = 39 ∨ c = 34
        · rcases hq with rfl | rfl <;> simp
        · simp only [hq, if_false, true_iff]
          simp only [not_or] at hq
          refine ⟨hq.2, hq.1, ?_⟩
          split
          · next r' heq => cases heq; exact absurd rfl h91
          · rfl

theorem start_quote {s : Bytes} {q : UInt8} (h : start s = .quote q) : (q = 39 ∨ q = 34) ∧ s.take 1 = [q] := by
  unfold start at h
  split at h
  · cases h
  · split at h
    · cases h
    · split at h
      · cases h
      · split at h
        · next hq => cases h; exact ⟨hq, rfl⟩
        · cases h

theorem start_plain_of_head (h : UInt8) (t : Bytes) (h1 : h ≠ 45) (h2 : h ≠ 91) (h3 : h ≠ 39) (h4 : h ≠ 34) :
    start (h :: t) = .plain := by
  simp [start, List.isPrefixOf, Ne.symm h1, h2, h3, h4]

theorem take_eqRun_bracket (r : Bytes) (h : (r.drop (spanLen (· == 61) r)).head? = some 91) :
    r.take (spanLen (· == 61) r + 1) = List.replicate (spanLen (· == 61) r) 61 ++ [91] := by
  induction r with
  | nil => cases h
  | cons a r ih =>
    rw [spanLen_cons] at h ⊢
    by_cases ha : a = 61
    · subst ha
      simp only [beq_self_eq_true, if_true, Nat.add_comm 1, List.drop_succ_cons] at h ⊢
      rw [List.take_succ_cons, ih h, List.replicate_succ]; rfl
    · have : (a == 61) = false := by simpa using ha
      simp only [this, Bool.false_eq_true, if_false, List.drop_zero, List.head?_cons, Option.some.injEq] at h ⊢
      rw [h]; rfl

theorem start_text (s : Bytes) : s.take (start s).len = (start s).text := by
  unfold start
  split
  · next hp => obtain ⟨u, rfl⟩ := List.isPrefixOf_iff_prefix.mp hp; rfl
  · cases s with
    | nil => rfl
    | cons c r =>
      dsimp only
      split
      · next hc => rw [hc.1]; exact congrArg (91 :: ·) (take_eqRun_bracket r hc.2)
      · split <;> rfl

theorem start_len_le (s : Bytes) : (start s).len ≤ s.length := by
  have := congrArg List.length (start_text s)
  have hl : (start s).text.length = (start s).len := by cases start s <;> simp [Start.text, Start.len]
  rw [List.length_take, hl] at this
  omega

theorem processToken_normal (shape : List Entry) (st : LexSt) (s : Bytes) (hm : st.mode = .normal) (hs : s ≠ []) :
    processToken shape st s =
      match start s with
      | .longComment => .ok (advance { st with mode := .inComment st.line st.col [45, 45, 91, 91] } (s.take 4), 4)
      | .longString n =>
        .ok (advance { st with mode := .inLong (List.replicate n 61) st.line st.col [] } (s.take (n + 2)), n + 2)
      | .quote q => .ok (advance { st with mode := .inStr q st.line st.col [] } (s.take 1), 1)
      | .plain =>
        match matchOne shape s with
        | some (k, n) =>
          .ok (advance { st with toks := st.toks.push { kind := k, data := s.take n, line := st.line, col := st.col } }
            (s.take n), n)
        | none => .ok (st, 0) := by
  unfold start
  by_cases h0 : [45, 45, 91, 91].isPrefixOf s = true
  · simp only [processToken, hm, h0, if_true]
  · have h0' : [45, 45, 91, 91].isPrefixOf s = false := Bool.eq_false_iff.mpr h0
    cases s with
    | nil => exact absurd rfl hs
    | cons c r =>
      by_cases hc : c = 91
      · subst hc
        simp only [processToken, hm, h0', Bool.false_eq_true, ↓reduceIte, true_and]
        rw [show 1 + spanLen (· == 61) r = spanLen (· == 61) r + 1 from Nat.add_comm _ _, List.drop_succ_cons]
        by_cases hB : (r.drop (spanLen (· == 61) r)).head? = some 91
        · simp only [hB, if_true]
        · simp only [hB, if_false, processToken.normalMatch, hm]
          rfl
      · simp only [processToken, hm, h0', Bool.false_eq_true, if_false, hc, false_and, processToken.normalMatch]
        by_cases hq : c = 39 ∨ c = 34 <;> simp only [hq, if_true, if_false] <;> rfl

theorem processToken_open (shape : List Entry) (st : LexSt) (s : Bytes) (hm : st.mode = .normal)
    (hs : start s ≠ .plain) :
    processToken shape st s =
      .ok (advance { st with mode := (start s).mode st.line st.col } (s.take (start s).len), (start s).len) := by
  have hne : s ≠ [] := by rintro rfl; exact hs rfl
  rw [processToken_normal shape st s hm hne]
  cases h : start s with
  | plain => exact absurd h hs
  | longComment => rfl
  | longString n => rfl
  | quote q => rfl

/-- what the step in a multi-line mode `m` finds in the chunk `s`: the construct closes (its token, bytes
consumed), or is still open at the end of the chunk (the new mode) -/
def scan (m : Mode) (s : Bytes) : Except Err ((Tok × Nat) ⊕ Mode) :=
  match m with
  | .normal => .ok (.inr .normal)
  | .inStr q l c acc =>
    match sl q s acc 0 with
    | .error e => .error e
    | .ok (true, acc', i) => .ok (.inl ({ kind := .string, data := acc', quote := some q, line := l, col := c }, i))
    | .ok (false, acc', _) => .ok (.inr (.inStr q l c acc'))
  | .inComment l c acc =>
    match findSub [93, 93] s 0 with
    | some k => .ok (.inl ({ kind := .comment, data := acc ++ s.take (k + 2), line := l, col := c }, k + 2))
    | none => .ok (.inr (.inComment l c (acc ++ s)))
  | .inLong d l c acc =>
    match findSub ([93] ++ d ++ [93]) s 0 with
    | some k =>
      .ok (.inl ({ kind := .string, data := acc ++ s.take k, mlq := some d, line := l, col := c }, k + d.length + 2))
    | none => .ok (.inr (.inLong d l c (acc ++ s)))

theorem processToken_scan (shape : List Entry) (st : LexSt) (s : Bytes) (hm : st.mode ≠ .normal) :
    processToken shape st s =
      match scan st.mode s with
      | .error e => .error e
      | .ok (.inl (t, i)) => .ok (advance { st with toks := st.toks.push t, mode := .normal } (s.take i), i)
      | .ok (.inr m') => .ok (advance { st with mode := m' } s, s.length) := by
  cases h : st.mode with
  | normal => exact absurd h hm
  | inStr q l c acc =>
    simp only [processToken, h, scan, sl]
    cases hsl : strLoop q (s.length + 1) s acc 0 with
    | error e => rfl
    | ok r =>
      obtain ⟨b, acc', i⟩ := r
      cases b with
      | true => rfl
      | false =>
        have := (sl_end (show sl q s acc 0 = _ from hsl)).1 rfl
        simp only [Nat.zero_add] at this
        simp [this]
  | inComment l c acc =>
    simp only [processToken, h, scan]
    cases findSub [93, 93] s 0 <;> simp
  | inLong d l c acc =>
    simp only [processToken, h, scan]
    cases findSub ([93] ++ d ++ [93]) s 0 <;> simp

theorem scan_closed {m : Mode} {s : Bytes} {t : Tok} {i : Nat} (h : scan m s = .ok (.inl (t, i))) :
    1 ≤ i ∧ i ≤ s.length := by
  cases m with
  | normal => cases h
  | inStr q l c acc =>
    simp only [scan] at h
    split at h <;> cases h
    rename_i hsl
    obtain ⟨k, hk, hg⟩ := (sl_end hsl).2 rfl
    have := (List.getElem?_eq_some_iff.mp hg).1
    omega
  | inComment l c acc =>
    simp only [scan] at h
    split at h <;> cases h
    rename_i hf
    have := (findSub_spec hf).2.1
    simp at this; omega
  | inLong d l c acc =>
    simp only [scan] at h
    split at h <;> cases h
    rename_i hf
    have := (findSub_spec hf).2.1
    simp at this; omega

theorem scan_open {m m' : Mode} {s : Bytes} (h : scan m s = .ok (.inr m')) (hm : m ≠ .normal) : m' ≠ .normal := by
  cases m with
  | normal => exact absurd rfl hm
  | inStr q l c acc =>
    simp only [scan] at h
    split at h <;> cases h
    simp
  | inComment l c acc =>
    simp only [scan] at h
    split at h <;> cases h
    simp
  | inLong d l c acc =>
    simp only [scan] at h
    split at h <;> cases h
    simp

theorem scan_closes {st : Start} {l c : Nat} {s : Bytes} {t : Tok} {i : Nat}
    (h : scan (st.mode l c) s = .ok (.inl (t, i))) :
    (st = .longComment ∧ ∃ k, findSub [93, 93] s 0 = some k ∧ i = k + 2 ∧
      t = { kind := .comment, data := [45, 45, 91, 91] ++ s.take (k + 2), line := l, col := c }) ∨
    (∃ n k, st = .longString n ∧ findSub ([93] ++ List.replicate n 61 ++ [93]) s 0 = some k ∧ i = k + n + 2 ∧
      t = { kind := .string, data := s.take k, mlq := some (List.replicate n 61), line := l, col := c }) ∨
    (∃ q d, st = .quote q ∧ sl q s [] 0 = .ok (true, d, i) ∧
      t = { kind := .string, data := d, quote := some q, line := l, col := c }) := by
  cases st with
  | plain => cases h
  | longComment =>
    simp only [Start.mode, scan] at h
    split at h <;> cases h
    exact .inl ⟨rfl, _, ‹_›, rfl, rfl⟩
  | longString n =>
    simp only [Start.mode, scan] at h
    split at h <;> cases h
    exact .inr (.inl ⟨n, _, rfl, ‹_›, by simp, by simp⟩)
  | quote q =>
    simp only [Start.mode, scan] at h
    split at h <;> cases h
    exact .inr (.inr ⟨q, _, rfl, ‹_›, rfl⟩)

theorem scan_pos {st : Start} {l c : Nat} {s : Bytes} {t : Tok} {i : Nat}
    (h : scan (st.mode l c) s = .ok (.inl (t, i))) : (t.line, t.col) = (l, c) := by
  rcases scan_closes h with ⟨-, k, -, -, rfl⟩ | ⟨n, k, -, -, -, rfl⟩ | ⟨q, d, -, -, rfl⟩ <;> rfl

theorem processToken_nil (shape : List Entry) (st : LexSt) : processToken shape st [] = .ok (st, 0) := by
  by_cases hm : st.mode = .normal
  · simp [processToken, hm, processToken.normalMatch]
  · rw [processToken_scan _ _ _ hm]
    cases h : st.mode with
    | normal => exact absurd h hm
    | inStr q l c acc => simp only [scan, sl_nil, advance, List.foldl_nil, List.length_nil, ← h]
    | inComment l c acc =>
      simp only [scan, findSub, List.isEmpty_cons, Bool.false_eq_true, if_false, advance, List.foldl_nil,
        List.append_nil, List.length_nil, ← h]
    | inLong d l c acc =>
      simp only [scan, findSub, List.cons_append, List.isEmpty_cons, Bool.false_eq_true, if_false, advance,
        List.foldl_nil, List.append_nil, List.length_nil, ← h]

theorem processLine_succ (shape : List Entry) (fuel : Nat) (st : LexSt) (s : Bytes) :
    processLine shape (fuel + 1) st s =
      match processToken shape st s with
      | .error e => .error e
      | .ok (st', i) => if i = 0 then (if s.isEmpty then .ok st' else .error .lex)
                        else processLine shape fuel st' (s.drop i) := rfl

theorem processToken_drop_lt {shape : List Entry} {st st' : LexSt} {s : Bytes} {i : Nat}
    (h : processToken shape st s = .ok (st', i)) (hi : i ≠ 0) : (s.drop i).length < s.length := by
  cases s with
  | nil => rw [processToken_nil] at h; cases h; exact absurd rfl hi
  | cons c r => simp only [List.length_drop, List.length_cons]; omega

/-- a line processed with its canonical fuel -/
def pl (shape : List Entry) (st : LexSt) (s : Bytes) : Except Err LexSt := processLine shape (s.length + 1) st s

theorem processLine_fuel (shape : List Entry) (f : Nat) (st : LexSt) (s : Bytes) (hf : s.length + 1 ≤ f) :
    processLine shape f st s = pl shape st s := by
  induction f using Nat.strongRecOn generalizing st s with
  | _ f ih =>
    obtain ⟨g, rfl⟩ : ∃ g, f = g + 1 := ⟨f - 1, by omega⟩
    rw [pl, processLine_succ, processLine_succ]
    cases hp : processToken shape st s with
    | error e => rfl
    | ok si =>
      obtain ⟨st', i⟩ := si
      by_cases hi : i = 0
      · simp only [hi, if_true]
      · have := processToken_drop_lt hp hi
        simp only [hi, if_false]
        rw [ih g (by omega) _ _ (by omega), ih s.length (by omega) _ _ (by omega)]

theorem pl_step (shape : List Entry) (st : LexSt) (s : Bytes) :
    pl shape st s =
      match processToken shape st s with
      | .error e => .error e
      | .ok (st', i) => if i = 0 then (if s.isEmpty then .ok st' else .error .lex) else pl shape st' (s.drop i) := by
  rw [pl, processLine_succ]
  cases hp : processToken shape st s with
  | error e => rfl
  | ok si =>
    obtain ⟨st', i⟩ := si
    by_cases hi : i = 0
    · simp only [hi, if_true]
    · simp only [hi, if_false]
      exact processLine_fuel shape _ st' _ (processToken_drop_lt hp hi)

theorem pl_nil (shape : List Entry) (st : LexSt) : pl shape st [] = .ok st := by
  rw [pl_step, processToken_nil]; rfl

theorem pl_scan (shape : List Entry) (st : LexSt) (s : Bytes) (hm : st.mode ≠ .normal) (hs : s ≠ []) :
    pl shape st s =
      match scan st.mode s with
      | .error e => .error e
      | .ok (.inl (t, i)) =>
        pl shape (advance { st with toks := st.toks.push t, mode := .normal } (s.take i)) (s.drop i)
      | .ok (.inr m') => .ok (advance { st with mode := m' } s) := by
  rw [pl_step, processToken_scan shape st s hm]
  cases hsc : scan st.mode s with
  | error e => rfl
  | ok r =>
    cases r with
    | inl ti =>
      obtain ⟨t, i⟩ := ti
      have : i ≠ 0 := by have := (scan_closed hsc).1; omega
      simp only [this, if_false]
    | inr m' =>
      have : s.length ≠ 0 := fun h => hs (List.length_eq_zero_iff.mp h)
      simp only [this, if_false, List.drop_length, pl_nil]

/-! ### a successful run on one chunk, token by token

Every token is pushed by one of two events: a match of the pattern table at a plain start, or the closing of a
multi-line construct whose opening delimiter was read by the step before. `lex_cover` carries any fact `Q` that the
two events establish to all tokens of `lex [src]`, together with the texts the tokens were read from and their
positions. -/

section cover
variable (Q : Tok → Bytes → Prop)

/-- the tokens so far with the texts they were read from: the fact `Q`, and the recorded position -/
def TokOK (toks : Array Tok) (raws : List Bytes) : Prop :=
  raws.length = toks.size ∧ ∀ i (hi : i < toks.size), Q toks[i] (raws.getD i []) ∧
    (toks[i].line, toks[i].col) = posAfter 0 0 (raws.take i).flatten

theorem TokOK.push {Q : Tok → Bytes → Prop} {toks : Array Tok} {raws : List Bytes} (h : TokOK Q toks raws)
    (t : Tok) (r : Bytes) (h1 : Q t r) (h2 : (t.line, t.col) = posAfter 0 0 raws.flatten) :
    TokOK Q (toks.push t) (raws ++ [r]) := by
  obtain ⟨hl, hi⟩ := h
  refine ⟨by simp [hl], fun i hi' => ?_⟩
  simp only [Array.size_push] at hi'
  rw [Array.getElem_push, List.getD_eq_getElem?_getD]
  split
  · next hlt =>
    rw [List.getElem?_append_left (by omega), ← List.getD_eq_getElem?_getD, List.take_append_of_le_length (by omega)]
    exact hi i hlt
  · next hge =>
    obtain rfl : i = toks.size := by omega
    rw [List.getElem?_append_right (by omega), List.take_append_of_le_length (by omega),
      List.take_of_length_le (by omega)]
    simpa [hl] using ⟨h1, h2⟩

/-- between two tokens: the tokens so far were read from the texts `raws`, which make up the text consumed -/
def Inv (consumed : Bytes) (st : LexSt) : Prop :=
  ∃ raws : List Bytes, TokOK Q st.toks raws ∧ raws.flatten = consumed ∧ (st.line, st.col) = posAfter 0 0 consumed

theorem Inv.push {Q : Tok → Bytes → Prop} {consumed : Bytes} {st st2 : LexSt} (h : Inv Q consumed st) {t : Tok}
    {r : Bytes} (htoks : st2.toks = st.toks.push t) (hq : Q t r) (ht : (t.line, t.col) = (st.line, st.col))
    (hpos : (st2.line, st2.col) = posAfter st.line st.col r) : Inv Q (consumed ++ r) st2 := by
  obtain ⟨raws, htok, hflat, hp⟩ := h
  refine ⟨raws ++ [r], htoks ▸ htok.push t r hq (by rw [ht, hp, hflat]), by simp [hflat], ?_⟩
  rw [hpos, posAfter_append, ← hp]

variable (shape : List Entry)
  (hplain : ∀ s k n l c, start s = .plain → matchOne shape s = some (k, n) → n ≠ 0 →
    Q { kind := k, data := s.take n, line := l, col := c } (s.take n))
  (hclose : ∀ s0 l c s t i, scan ((start s0).mode l c) s = .ok (.inl (t, i)) →
    Q t ((start s0).text ++ s.take i))
include hplain hclose

theorem pl_cover (s : Bytes) (st st' : LexSt) (consumed : Bytes) (hm : st.mode = .normal) (hinv : Inv Q consumed st)
    (h : pl shape st s = .ok st') (hm' : st'.mode = .normal) : Inv Q (consumed ++ s) st' := by
  induction hn : s.length using Nat.strongRecOn generalizing s st consumed with
  | _ n ih =>
    subst hn
    by_cases hs : s = []
    · subst hs; rw [pl_nil] at h; cases h; simpa using hinv
    have hse : s.isEmpty = false := by simpa using hs
    rw [pl_step] at h
    by_cases hst : start s = .plain
    · rw [processToken_normal shape st s hm hs, hst] at h
      cases hmo : matchOne shape s with
      | none => simp [hmo, hse] at h
      | some kn =>
        obtain ⟨k, n⟩ := kn
        simp only [hmo] at h
        by_cases hn0 : n = 0
        · simp [hn0, hse] at h
        · simp only [hn0, if_false] at h
          have hlt : (s.drop n).length < s.length := by
            have := List.length_pos_iff.mpr hs; simp only [List.length_drop]; omega
          have := ih _ hlt _ _ _ (by rw [advance_eq]; exact hm)
            (hinv.push (r := s.take n) (by rw [advance_eq]) (hplain s k n _ _ hst hmo hn0) rfl (by rw [advance_eq])) h rfl
          rwa [List.append_assoc, List.take_append_drop] at this
    · rw [processToken_open shape st s hm hst] at h
      have hlen : (start s).len ≠ 0 := by
        cases hh : start s <;> simp [Start.len]
        exact hst hh
      simp only [hlen, if_false] at h
      have hm1 : (advance { st with mode := (start s).mode st.line st.col } (s.take (start s).len)).mode =
          (start s).mode st.line st.col := by rw [advance_eq]
      have hm1n : (start s).mode st.line st.col ≠ .normal := fun e => hst (Start.mode_normal.mp e)
      by_cases hd : s.drop (start s).len = []
      · rw [hd, pl_nil] at h; cases h; rw [hm1] at hm'; exact absurd hm' hm1n
      rw [pl_scan shape _ _ (by rw [hm1]; exact hm1n) hd, hm1] at h
      cases hsc : scan ((start s).mode st.line st.col) (s.drop (start s).len) with
      | error e => rw [hsc] at h; cases h
      | ok r =>
        rw [hsc] at h
        cases r with
        | inr m' => cases h; rw [advance_eq] at hm'; exact absurd hm' (scan_open hsc hm1n)
        | inl ti =>
          obtain ⟨t, i⟩ := ti
          dsimp only at h
          have hi := scan_closed hsc
          have hlt : ((s.drop (start s).len).drop i).length < s.length := by
            simp only [List.length_drop] at hi ⊢; omega
          have := ih _ hlt _ _ _ (by rw [advance_eq])
            (hinv.push (r := (start s).text ++ (s.drop (start s).len).take i) (by simp only [advance_eq])
              (hclose s _ _ _ t i hsc) (scan_pos hsc)
              (by simp only [advance_eq, ← start_text, ← posAfter_append])) h rfl
          rwa [← start_text, List.append_assoc, List.append_assoc, List.take_append_drop, List.take_append_drop] at this

end cover

/-- the tokens of a chunk: the texts they were read from make up the source, each token records the position of
its text, and every token has the property `Q` that the two events establish -/
theorem lex_cover (Q : Tok → Bytes → Prop)
    (hplain : ∀ s k n l c, start s = .plain → matchOne Gen.matcherShape s = some (k, n) → n ≠ 0 →
      Q { kind := k, data := s.take n, line := l, col := c } (s.take n))
    (hclose : ∀ s0 l c s t i, scan ((start s0).mode l c) s = .ok (.inl (t, i)) →
      Q t ((start s0).text ++ s.take i))
    (src : Bytes) (toks : List Tok) (h : lex [src] = .ok toks) :
    ∃ raws : List Bytes, raws.length = toks.length ∧ raws.flatten = src ∧
      ∀ i (hi : i < toks.length), Q toks[i] (raws.getD i []) ∧
        (toks[i].line, toks[i].col) = posAfter 0 0 (raws.take i).flatten := by
  simp only [lex, processLines, processLinesFrom, processLine_fuel _ _ _ _ (Nat.le_succ _)] at h
  cases hp : pl Gen.matcherShape {} src with
  | error e => simp [hp] at h
  | ok st =>
    simp only [hp] at h
    cases hm : st.mode with
    | normal =>
      simp only [hm] at h
      cases h
      obtain ⟨raws, ⟨hl, htok⟩, hflat, -⟩ := pl_cover Q _ hplain hclose src {} st [] rfl
        ⟨[], ⟨rfl, fun i hi => by simp at hi⟩, rfl, rfl⟩ hp hm
      refine ⟨raws, by simpa using hl, by simpa using hflat, fun i hi => ?_⟩
      simp only [Array.length_toList] at hi
      simpa using htok i hi
    | inStr q l c acc => simp [hm] at h
    | inComment l c acc => simp [hm] at h
    | inLong d l c acc => simp [hm] at h
end Pico.LexL
