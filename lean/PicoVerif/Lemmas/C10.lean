import PicoVerif.Lemmas.Blind
/-! Lemmas for C10: `normRun` cut into `normBreaks`, `dropSpacesBeforeLF`, `midRun` (the comment rewrites) and
`endRun` (final indent, all-spaces, blank lines, trailing run); the invariants of its output; idempotence of the
parts on the output; independence of the spaces around a line feed. -/
namespace Pico.Ast
open Pico.Lex

/-- the comment rewrites of `normRun` -/
def midRun (m : Nat) (st : Bool) (s : Bytes) : Bytes :=
  let s := if !st then subStartComment [32, 32, 45, 45] s else s
  let s := subLineComment (List.replicate m 32) s
  if st then subStartAnyComment s else s

/-- the last four rewrites of `normRun` -/
def endRun (m : Nat) (st e : Bool) (s : Bytes) : Bytes :=
  let s := subFinalIndent (List.replicate m 32) s
  let s := if st then subAllSpaces s else s
  let s := collapseLF s
  if e then subTrailing s else s

theorem normRun_eq (w d : Nat) (st e : Bool) (r : Bytes) :
    normRun w d st e r = endRun (w * d) st e (midRun (w * d) st (dropSpacesBeforeLF (normBreaks r))) := rfl

def tabsCRs (s : Bytes) : Bytes := s.filter fun b => b == 9 || b == 13

theorem clean_iff (s : Bytes) : Clean s ↔ tabsCRs s = [] := by
  simp [Clean, tabsCRs, List.filter_eq_nil_iff]

theorem blind_tabsCRs : Blind tabsCRs (· ++ ·) :=
  ⟨fun _ _ => List.filter_append .., List.append_assoc, fun _ => rfl, rfl, rfl⟩

/-- the break normalisation removes the tabs and carriage returns, and no later stage writes one -/
theorem normRun_clean (w d : Nat) (st e : Bool) (r : Bytes) : Clean (normRun w d st e r) := by
  rw [clean_iff, blind_tabsCRs.normRun_tail]
  exact (clean_iff _).1 (normBreaks_clean r)

/-- the start rewrite of `normRun`: at the start of the token stream a leading comment (`--` or `//`) loses its
indentation; elsewhere a leading `--` comment gets exactly two spaces -/
def startIndent : Bool → Bytes → Option Nat
  | true => fun _ => some 0
  | false => dashes 2

theorem midRun_false (m : Nat) (s : Bytes) :
    midRun m false s = subLineComment (List.replicate m 32) (reindent (startIndent false) s) :=
  congrArg _ (subStartComment_eq 2 s)
theorem midRun_true (m : Nat) (s : Bytes) :
    midRun m true s = reindent (startIndent true) (subLineComment (List.replicate m 32) s) :=
  subStartAnyComment_eq _

/-- the invariants the front end establishes and `endRun` keeps: no space in front of a line feed, comment lines
indented by `m`, a leading comment indented as `ind` says -/
structure RunInv (m : Nat) (ind : Bytes → Option Nat) (s : Bytes) : Prop where
  noSpLF : NoSpLF s
  lineOK : LineOK m s
  start : StartK ind s

theorem midRun_inv (m : Nat) (st : Bool) (s : Bytes) (h : NoSpLF s) : RunInv m (startIndent st) (midRun m st s) := by
  cases st with
  | false =>
    rw [midRun_false]
    exact ⟨NoSpLF_slc _ _ (NoSpLF_reindent _ _ h), LineOK_slc _ _,
      StartK_congr (spacesThenComment_slc _ _) (StartK_reindent _ s)⟩
  | true =>
    rw [midRun_true]
    exact ⟨NoSpLF_reindent _ _ (NoSpLF_slc _ _ h), LineOK_reindent _ _ _ (LineOK_slc _ _), StartK_reindent _ _⟩

theorem midRun_id (m : Nat) (st : Bool) (s : Bytes) (h1 : LineOK m s) (h2 : StartK (startIndent st) s) :
    midRun m st s = s := by
  cases st with
  | false => rw [midRun_false, reindent_id _ s h2, slc_of_LineOK m s h1]
  | true => rw [midRun_true, slc_of_LineOK m s h1, reindent_id _ s h2]

theorem midRun_append_lf (m : Nat) (st : Bool) (E t : Bytes) :
    midRun m st (E ++ 10 :: t) = midRun m st E ++ subLineComment (List.replicate m 32) (10 :: t) := by
  cases st with
  | false => rw [midRun_false, midRun_false, reindent_append_lf, slc_append_lf]
  | true =>
    rw [midRun_true, midRun_true, slc_append_lf]
    obtain ⟨t', e⟩ := slc_lf_head (List.replicate m 32) t
    rw [e, reindent_append_lf]

theorem endRun_true (m : Nat) (st : Bool) (s : Bytes) :
    endRun m st true s = subTrailing (collapseLF (if st then subAllSpaces (subFinalIndent (List.replicate m 32) s)
      else subFinalIndent (List.replicate m 32) s)) := rfl
theorem endRun_false (m : Nat) (st : Bool) (s : Bytes) :
    endRun m st false s = collapseLF (if st then subAllSpaces (subFinalIndent (List.replicate m 32) s)
      else subFinalIndent (List.replicate m 32) s) := rfl

/-- `endRun` is three tail edits around `collapseLF` -/
theorem endRun_inv (ind : Bytes → Option Nat) (k m : Nat) (st e : Bool) (s : Bytes) (h : RunInv k ind s) :
    RunInv k ind (endRun m st e s) := by
  have hE : ∀ {s s'}, TailEdit s s' → RunInv k ind s → RunInv k ind s' := fun hE h =>
    ⟨hE.noSpLF h.noSpLF, hE.lineOK k h.lineOK, StartK_congr hE.spacesThenComment_eq h.start⟩
  have hC : ∀ {s}, RunInv k ind s → RunInv k ind (collapseLF s) := fun {s} h =>
    ⟨NoSpLF_collapseLF s h.noSpLF, LineOK_collapseLF k s h.lineOK, StartK_congr (spacesThenComment_collapseLF s) h.start⟩
  exact hE (tailEdit_ite e tailEdit_subTrailing _)
    (hC (hE (tailEdit_ite st tailEdit_subAllSpaces _) (hE (tailEdit_subFinalIndent m s) h)))

theorem endRun_NoTriple (m : Nat) (st e : Bool) (s : Bytes) : NoTriple (endRun m st e s) := by
  unfold endRun
  cases e
  · exact NoTriple_collapseLF _
  · exact NoTriple_subTrailing _ (NoTriple_collapseLF _)

theorem endRun_lf_sp (m : Nat) (st e : Bool) (Y : Bytes) (k : Nat) :
    endRun m st e (Y ++ 10 :: List.replicate k 32) = endRun m st e (Y ++ [10]) := by
  have h0 : subFinalIndent (List.replicate m 32) (Y ++ [10]) = Y ++ 10 :: List.replicate m 32 :=
    subFinalIndent_lf _ Y 0
  unfold endRun
  rw [subFinalIndent_lf, h0]

/-- when the run does not end the file, its last line, if blank, is the indentation -/
theorem endRun_lf_sp_false (m : Nat) (st : Bool) (Y : Bytes) (k : Nat) :
    ∃ B, endRun m st false (Y ++ 10 :: List.replicate k 32) = B ++ [10] ++ List.replicate m 32 := by
  obtain ⟨B, hB⟩ := collapseLF_snoc_lf Y
  rw [endRun_false, subFinalIndent_lf, subAllSpaces_of_mem _ 10 (by simp) (by decide), ite_self,
    show Y ++ 10 :: List.replicate m (32 : UInt8) = (Y ++ [10]) ++ List.replicate m 32 by simp, collapseLF_append_sp, hB]
  exact ⟨B, rfl⟩

/-- at the end of the file the final-indent and all-spaces rules are void: `subTrailing` removes what they write -/
theorem endRun_atEnd (m : Nat) (st : Bool) (s : Bytes) : endRun m st true s = subTrailing (collapseLF s) := by
  rw [endRun_true, ← (tailEdit_subFinalIndent m s).subTrailing_collapseLF]
  exact (tailEdit_ite st tailEdit_subAllSpaces _).subTrailing_collapseLF

theorem endRun_idem (m : Nat) (st e : Bool) (s : Bytes) : endRun m st e (endRun m st e s) = endRun m st e s := by
  cases e with
  | true =>
    rw [endRun_atEnd, endRun_atEnd, (tailEdit_subTrailing _).subTrailing_collapseLF,
      collapseLF_of_NoTriple _ (NoTriple_collapseLF s)]
  | false =>
    rw [endRun_false m st s, endRun_false, subFinalIndent_collapseLF]
    cases st with
    | false =>
      simp only [Bool.false_eq_true, if_false]
      rw [subFinalIndent_idem, collapseLF_of_NoTriple _ (NoTriple_collapseLF _)]
    | true =>
      simp only [if_true]
      rcases subAllSpaces_cases (subFinalIndent (List.replicate m 32) s) with ⟨_, e⟩ | ⟨hn, e⟩ <;> rw [e]
      · simp [subFinalIndent_nil, subAllSpaces_nil]
      · obtain ⟨x, hx, hne⟩ := List.all_eq_false.mp hn
        rw [subFinalIndent_idem, subAllSpaces_of_mem _ x ((mem_collapseLF _ x).mpr hx) (by simpa using hne),
          collapseLF_of_NoTriple _ (NoTriple_collapseLF _)]

theorem normRun_inv (w d : Nat) (st e : Bool) (r : Bytes) :
    RunInv (w * d) (startIndent st) (normRun w d st e r) ∧ NoTriple (normRun w d st e r) := by
  rw [normRun_eq]
  exact ⟨endRun_inv _ _ _ _ _ _ (midRun_inv _ _ _ (NoSpLF_dsl _)), endRun_NoTriple _ _ _ _⟩

/-- the front end (`normBreaks`, `dropSpacesBeforeLF`, `midRun`) cut at a line feed: what precedes the line feed is
rendered independently of what follows it -/
theorem front_lf (a : Bytes) : ∃ Y, ∀ (m : Nat) (st : Bool) (y : Bytes), y.head? ≠ some 13 →
    midRun m st (dropSpacesBeforeLF (normBreaks (a ++ [10] ++ y))) =
      midRun m st Y ++ subLineComment (List.replicate m 32) (10 :: dropSpacesBeforeLF (normBreaks y)) := by
  obtain ⟨Q, hQ⟩ := List.getLast?_eq_some_iff.mp (normBreaks_getLast?_lf (a ++ [10]) (by simp))
  -- `dropSpacesBeforeLF` splits in front of the spaces that end `Q`
  obtain ⟨pre, k, rfl, hp⟩ := tail_sp_decomp Q
  exact ⟨dropSpacesBeforeLF pre, fun m st y hy => by
    rw [normBreaks_append (a ++ [10]) y (by simp) hy, hQ, List.append_assoc, List.append_assoc, List.singleton_append,
      dsl_append _ _ hp, dsl_sp_lf, midRun_append_lf]⟩

theorem normRun_indent (w d : Nat) (st : Bool) (pre ws : Bytes) (hws : ws.all (fun c => c == 32 || c == 9) = true) :
    ∃ body, normRun w d st false (pre ++ [10] ++ ws) = body ++ [10] ++ List.replicate (w * d) 32 ∧
      body.getLast? ≠ some 32 := by
  have hgood := (normRun_inv w d st false (pre ++ [10] ++ ws)).1.noSpLF
  obtain ⟨Y, hY⟩ := front_lf pre
  rw [normRun_eq] at hgood ⊢
  rw [hY _ _ _ (by simpa using ws_head? ws [] hws (by simp)), normBreaks_ws ws hws, dsl_sp, slc_lf_sp] at hgood ⊢
  obtain ⟨B, hB⟩ := endRun_lf_sp_false (w * d) st (midRun (w * d) st Y) ws.length
  rw [hB] at hgood
  exact ⟨B, hB, fun hl => ((NoSpLF_append _ _).mp ((NoSpLF_append _ _).mp hgood).1).2.1 hl rfl⟩

/-- what a line starts with when its indentation does not matter: nothing (the line is blank to its end, the end of
the run), a comment, a line feed -/
def LineHead (b : Bytes) : Prop := b = [] ∨ (∃ c r, Mk c ∧ b = c :: c :: r) ∨ ∃ r, b = 10 :: r

theorem LineHead.normBreaks {b : Bytes} (h : LineHead b) : b.head? ≠ some 13 ∧ LineHead (normBreaks b) := by
  rcases h with rfl | ⟨c, r, hc, rfl⟩ | ⟨r, rfl⟩
  · exact ⟨nofun, .inl rfl⟩
  · exact ⟨by simp [hc.ne13], .inr (.inl ⟨c, _, hc, normBreaks_marker c r hc⟩)⟩
  · exact ⟨by simp, .inr (.inr (normBreaks_lf_cons r))⟩

theorem endRun_lineHead_indent (m : Nat) (st e : Bool) (M B : Bytes) (hB : LineHead B) :
    ∃ R, ∀ j, endRun m st e (M ++ subLineComment (List.replicate m 32) (10 :: dropSpacesBeforeLF (List.replicate j 32 ++ B))) = R := by
  rcases hB with rfl | ⟨c, r, hc, rfl⟩ | ⟨r, rfl⟩
  · exact ⟨endRun m st e (M ++ [10]), fun j => by rw [List.append_nil, dsl_sp, slc_lf_sp, endRun_lf_sp]⟩
  · exact ⟨_, fun j => by rw [dsl_sp_cons _ _ _ hc.ne10 hc.ne32, dsl_cons_ne _ _ hc.ne32, slc_lf_comment _ _ _ _ hc]⟩
  · exact ⟨_, fun j => by rw [dsl_sp_lf]⟩

theorem normRun_leading (w d : Nat) (st e : Bool) (a ws b : Bytes) (hws : ws.all (fun c => c == 32 || c == 9) = true)
    (hb : LineHead b) : normRun w d st e (a ++ [10] ++ ws ++ b) = normRun w d st e (a ++ [10] ++ b) := by
  obtain ⟨hbh, hB⟩ := hb.normBreaks
  obtain ⟨Y, hY⟩ := front_lf a
  obtain ⟨R, hR⟩ := endRun_lineHead_indent (w * d) st e (midRun (w * d) st Y) (normBreaks b) hB
  rw [normRun_eq, normRun_eq, List.append_assoc _ ws b, hY _ _ _ (ws_head? ws b hws hbh), hY _ _ _ hbh,
    normBreaks_ws_append ws b hws hbh, hR, ← hR 0]
  rfl

/-- the last four rewrites keep a line that does not end in a space -/
theorem endRun_keep (m : Nat) (st e : Bool) (P L T : Bytes) (c : UInt8) (hL : L.getLast? = some c) (h32 : c ≠ 32)
    (hn : (10 : UInt8) ∉ L) : ∃ pre post, endRun m st e (P ++ [10] ++ L ++ T) = pre ++ [10] ++ L ++ post := by
  have h10 : c ≠ 10 := fun h => hn (h ▸ List.mem_of_getLast? hL)
  have hX : ∀ Q : Bytes, (Q ++ [10] ++ L).getLast? = some c := fun Q => by rw [List.getLast?_append, hL]; rfl
  obtain ⟨T1, h1⟩ := (tailEdit_subFinalIndent m (P ++ [10] ++ L ++ T)).keep c (hX P) h32 h10
  obtain ⟨T2, h2⟩ := (tailEdit_ite st tailEdit_subAllSpaces (P ++ [10] ++ L ++ T1)).keep c (hX P) h32 h10
  -- `collapseLF` splits after the line feed and after the line
  obtain ⟨B, hB⟩ := collapseLF_snoc_lf P
  have hC : collapseLF (P ++ [10] ++ L ++ T2) = B ++ [10] ++ L ++ collapseLF T2 := by
    rw [collapseLF_append _ T2 (fun h => absurd ((hX P).symm.trans h) (by simpa using h10)), collapseLF_append_noLF _ L hn, hB]
  obtain ⟨T3, h3⟩ := (tailEdit_ite e tailEdit_subTrailing (B ++ [10] ++ L ++ collapseLF T2)).keep c (hX B) h32 h10
  exact ⟨B, T3, by rw [← h3, ← hC, ← h2, ← h1]; rfl⟩

theorem normRun_comment_line (w d : Nat) (st e : Bool) (a ws b : Bytes) (c : UInt8)
    (hws : ws.all (fun c => c == 32 || c == 9) = true) (hc : Mk c) :
    ∃ pre post, normRun w d st e (a ++ [10] ++ ws ++ [c, c] ++ b) =
      pre ++ [10] ++ List.replicate (w * d) 32 ++ [c, c] ++ post := by
  obtain ⟨Y, hY⟩ := front_lf a
  have hbh : (c :: c :: b).head? ≠ some 13 := by simp [hc.ne13]
  rw [normRun_eq, show a ++ [10] ++ ws ++ [c, c] ++ b = a ++ [10] ++ (ws ++ c :: c :: b) by simp,
    hY _ _ _ (ws_head? ws _ hws hbh), normBreaks_ws_append ws _ hws hbh, normBreaks_marker c b hc,
    dsl_sp_cons _ _ _ hc.ne10 hc.ne32, dsl_cons_ne _ _ hc.ne32, slc_lf_comment _ _ _ _ hc]
  obtain ⟨pre, post, h⟩ := endRun_keep (w * d) st e (midRun (w * d) st Y) (List.replicate (w * d) 32 ++ [c, c])
    (subLineComment (List.replicate (w * d) 32) (dropSpacesBeforeLF (normBreaks b))) c (by simp) hc.ne32 (by simp [hc.ne10.symm])
  exact ⟨pre, post, by simpa using h⟩

end Pico.Ast
