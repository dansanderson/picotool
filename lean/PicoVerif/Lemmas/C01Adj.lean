import PicoVerif.Lemmas.PegAdjEval
import PicoVerif.Props.C08
import PicoVerif.Lemmas.C01AdjAux
/-! The adjacency analysis read at picotool's grammar: no program that the parser accepts to its last significant token
contains two neighbouring symbol/number tokens that would fuse when written back to back (`C01.FusablePair`). -/
namespace Pico.C01A
open Pico.Peg Pico.Lex Pico.Adj
open Pico.C01 (sigToks)

/-- the two facts about the computed table, evaluated together (the kernel then computes `picoTbl` once): it is closed
under picotool's grammar, and every pattern pair in the adjacency mask of a whole program is `pairSafe` -/
def picoFacts (cls : List Pat) (tbl : List Sm) : Bool :=
  closed cls Gram.gram tbl && tableOK cls (tblOf tbl Gram.nChunk).adj

theorem pico_facts : picoFacts picoCls picoTbl = true := by
  -- evaluated on the table as `iterX` computes it, where `pairs` is one multiplication
  rw [picoTbl, iterTbl_eq_iterX]; decide +kernel

theorem pico_closed : closed picoCls Gram.gram picoTbl = true :=
  (Bool.and_eq_true _ _ ▸ pico_facts : _ ∧ _).1

/-- every ordered pair of token patterns that the analysis lists as possibly adjacent in a program is in
the pattern table, and is a pair whose symbol/number tokens never fuse (`pairSafe`) -/
theorem pico_table : tableOK picoCls (tblOf picoTbl Gram.nChunk).adj = true :=
  (Bool.and_eq_true _ _ ▸ pico_facts : _ ∧ _).2

theorem pico_beyond : ∀ n, picoTbl.length ≤ n → Gram.gram n = .notAhead .eps := by
  intro n hn
  rw [picoTbl, iterTbl_length, List.length_replicate] at hn
  obtain ⟨m, rfl⟩ := Nat.exists_eq_add_of_le' hn
  rfl

/-- in the output of the lexer, if picotool's parser accepts it and consumes it to its last significant
token, no two neighbouring significant symbol/number tokens form a `fusable` pair (the Boolean of `Lemmas/C01Min`, which
is what `C01.FusablePair` unfolds to). Stated on `t.data`; for symbols and numbers `t.code = t.data` (`C01L.code_plain`). -/
theorem fusable_false_of_parse (src : Bytes) (toks : List Tok) (hl : lex [src] = .ok toks) (fuel : Nat)
    (ts : List Tree) (st' : PSt)
    (hp : run Gram.gram toks.toArray fuel (.nt Gram.nChunk) { pos := 0, maxPos := none } = .ok (some (ts, st')))
    (hend : skipTrivia toks.toArray st'.pos ≥ toks.toArray.size) :
    C01L.FusFree (sigToks toks) := by
  intro i a b ha hb hsa hsb
  have hleaves : toksAt toks.toArray (leavesL ts) = sigToks toks := by
    rw [(C08.cover Gram.gram toks.toArray fuel _ _ _ _ hp).2]
    show toksAt toks.toArray (sigIdx toks.toArray 0 st'.pos) = _
    rw [sigIdx_to_size _ 0 _ (Nat.zero_le _) hend, toksAt_all]
  obtain ⟨p, q, hpa, hqb, hbit⟩ := Adj.run_adj picoCls Gram.gram picoTbl pico_closed pico_beyond toks.toArray fuel _ _ _ _
    hp i a b (by rw [hleaves]; exact ha) (by rw [hleaves]; exact hb)
  simp only [summ] at hbit
  have hsafe := tableOK_sound picoCls _ p q pico_table hbit
  have hwf := C01L.lex_wf src toks hl
  have hma : a ∈ toks := (List.mem_filter.mp (List.mem_of_getElem? ha)).1
  have hmb : b ∈ toks := (List.mem_filter.mp (List.mem_of_getElem? hb)).1
  exact pairSafe_sound p q a b hpa hqb hsa hsb (hwf a hma) (hwf b hmb) hsafe

/-- non-vacuity: `a=b- -c` is lexed, parsed, and consumed to its last significant token -/
example : (match lex ["a=b- -c\n".toUTF8.toList] with
    | .ok toks =>
      (match run Gram.gram toks.toArray 600 (.nt Gram.nChunk) { pos := 0, maxPos := none } with
       | .ok (some (_, st)) => decide (skipTrivia toks.toArray st.pos ≥ toks.toArray.size)
       | _ => false)
    | _ => false) = true := by decide +kernel

end Pico.C01A
