import PicoVerif.Lemmas.C01Fwd
import PicoVerif.Props.C06
/-! Strings and block comments for C01: the written text of a string or block comment is read back by the reference
lexer as that token, whatever follows. -/
namespace Pico.C01L
open Pico.Lex Pico.Wr Pico.Spec.Lex Pico.LexL

/-- the re-escaped spelling of a quoted string denotes the string's bytes (`C06.reescape`) -/
theorem lexOne_quoted (q : UInt8) (v z : Bytes) (hq : q = 34 ∨ q = 39) :
    lexOne ((q :: escapeBody q v ++ [q]) ++ z) =
      some ({ kind := .string, data := v, quote := some q }, (q :: escapeBody q v ++ [q]).length) := by
  have hr := C06.reescape q hq v z (q :: (escapeBody q v ++ q :: z)).length (by simp)
  have hst : start (q :: (escapeBody q v ++ q :: z)) = .quote q := by
    rcases hq with rfl | rfl <;> simp [start, List.isPrefixOf]
  rw [show (q :: escapeBody q v ++ [q]) ++ z = q :: (escapeBody q v ++ q :: z) by simp,
    C07L.lexOne_start, hst]
  dsimp only
  rw [List.drop_succ_cons, List.drop_zero, hr]
  simp; omega

def longPat (n : Nat) : Bytes := [93] ++ List.replicate n 61 ++ [93]

/-- the closing bracket written after `data` is the first one the lexer finds -/
def LongOK (n : Nat) (data : Bytes) : Prop :=
  ∀ z, findSub (longPat n) (data ++ longPat n ++ z) 0 = some data.length

/-- the `]]` that ends `w` is the first one the lexer finds -/
def BlockOK (w : Bytes) : Prop :=
  2 ≤ w.length ∧ ∀ z, findSub [93, 93] (w ++ z) 0 = some (w.length - 2)

theorem lexOne_long (n : Nat) (data z : Bytes) (hok : LongOK n data) :
    lexOne (([91] ++ List.replicate n 61 ++ [91] ++ data ++ [93] ++ List.replicate n 61 ++ [93]) ++ z) =
      some ({ kind := .string, data := data, mlq := some (List.replicate n 61) },
        ([91] ++ List.replicate n 61 ++ [91] ++ data ++ [93] ++ List.replicate n 61 ++ [93]).length) := by
  have hsp := spanLen_replicate (· == 61) 61 n (91 :: (data ++ longPat n ++ z)) rfl fun d hd => by cases hd; rfl
  have hdrop : (List.replicate n 61 ++ 91 :: (data ++ longPat n ++ z)).drop n = 91 :: (data ++ longPat n ++ z) := by
    rw [List.drop_left' (by simp)]
  have hst : start (91 :: (List.replicate n 61 ++ 91 :: (data ++ longPat n ++ z))) = .longString n := by
    unfold start
    rw [if_neg (by simp [List.isPrefixOf])]
    dsimp only
    rw [hsp, hdrop]
    simp
  rw [show ([91] ++ List.replicate n 61 ++ [91] ++ data ++ [93] ++ List.replicate n 61 ++ [93]) ++ z =
      91 :: (List.replicate n 61 ++ 91 :: (data ++ longPat n ++ z)) by simp [longPat],
    C07L.lexOne_start, hst]
  dsimp only
  rw [show n + 2 = (n + 1) + 1 by omega, List.drop_succ_cons, ← List.drop_drop, hdrop, List.drop_succ_cons,
    List.drop_zero]
  rw [show [93] ++ List.replicate n 61 ++ [93] = longPat n from rfl, hok z]
  simp [longPat]; omega

theorem lexOne_block (w z : Bytes) (hok : BlockOK w) :
    lexOne (([45, 45, 91, 91] ++ w) ++ z) =
      some ({ kind := .comment, data := [45, 45, 91, 91] ++ w }, ([45, 45, 91, 91] ++ w).length) := by
  have h2 := hok.1
  rw [C07L.lexOne_start, show start (([45, 45, 91, 91] ++ w) ++ z) = .longComment by simp [start, List.isPrefixOf]]
  dsimp only
  simp only [List.cons_append, List.nil_append, List.drop_succ_cons, List.drop_zero, hok.2 z]
  simp
  refine ⟨?_, by omega⟩
  rw [show 4 + (w.length - 2) = w.length + 2 by omega]
  simp [List.take_succ_cons]

theorem blockOK_of_findSub (body : Bytes) (h : findSub [93, 93] (body ++ [93, 93]) 0 = some body.length) :
    BlockOK (body ++ [93, 93]) := by
  refine ⟨by simp, fun z => ?_⟩
  have := findSub_stab [93, 93] _ _ (by simp) h z
  rw [List.take_of_length_le (by simp)] at this
  rw [this]; simp

end Pico.C01L
