import PicoVerif.Lemmas.Sections
import PicoVerif.Model.P8Png
import PicoVerif.Spec.Formats
/-! Helper lemmas for C16: the text the section writers produce is the text `Spec.Formats` describes
(the readers then follow from the round trips of `Lemmas/Sections`); the PNG pixel and layout facts. -/
namespace Pico.C16L
open Pico.Sections Pico.P8Png Pico.P8File

theorem gfx_row (m : Bytes) (y : Nat) :
    toHex (((List.range 64).map fun i => m.getD (64 * y + i) 0).map swapNibbles) =
      (List.range 128).map fun x => hexDigit (Spec.pixel m x y) := by
  rw [toHex_eq_flatMap, List.flatMap_map, List.flatMap_map, show (128 : Nat) = 2 * 64 by rfl, map_range_two_mul]
  congr 1
  funext i
  simp only [swapNibbles_digits, Spec.pixel]
  rw [show 2 * i / 2 = i by omega, show (2 * i + 1) / 2 = i by omega, if_pos (by omega), if_neg (by omega)]

theorem hex_rows (n : Nat) (hn : 0 < n) (m : Bytes) (rows : Nat) (h : m.length = n * rows) :
    hexToLines n m = Spec.hexRows n rows m :=
  chunks_map_eq n rows hn m h 0 _ _ fun r _ => by rw [toHex_eq_flatMap, List.flatMap_map]; rfl

theorem sfx_note (lsb msb : UInt8) :
    noteText lsb msb = Spec.noteText (lsb.toNat + 256 * msb.toNat) := by
  have hl := lsb.toNat_lt
  rw [noteText_digits]
  simp only [Spec.noteText, Spec.notePitch, Spec.noteWaveform, Spec.noteVolume, Spec.noteEffect,
    List.cons.injEq, and_true]
  refine ⟨congrArg _ ?_, congrArg _ ?_, congrArg _ ?_, congrArg _ ?_, congrArg _ ?_⟩ <;> omega

theorem notesText_flatMap (l : List γ) (f g : γ → UInt8) :
    notesText (l.flatMap fun x => [f x, g x]) = l.flatMap fun x => noteText (f x) (g x) := by
  induction l with
  | nil => rfl
  | cons x xs ih => simp [notesText, ih]

theorem sfxPatternLine_row (m : Bytes) (id : Nat) :
    sfxPatternLine ((List.range 68).map fun i => m.getD (68 * id + i) 0) = Spec.sfxRow m id := by
  -- `drop 64` and `take 64` of the 68 listed bytes, computed
  show toHex ((List.range 4).map fun k => m.getD (68 * id + (64 + k)) 0) ++
    notesText ((List.range 32).flatMap fun n => [m.getD (68 * id + 2 * n) 0, m.getD (68 * id + (2 * n + 1)) 0]) ++
    [LF] = _
  rw [toHex_eq_flatMap, List.flatMap_map, notesText_flatMap]
  simp only [sfx_note]
  rfl

theorem musicRow_shift (a b c d : UInt8) (rest : Bytes) (i : Nat) :
    Spec.musicRow (a :: b :: c :: d :: rest) (i + 1) = Spec.musicRow rest i := by
  unfold Spec.musicRow
  simp only [show ∀ k, 4 * (i + 1) + k = 4 * i + k + 1 + 1 + 1 + 1 from fun k => by omega,
    List.getD_cons_succ]
  rfl

theorem musicRows_cons (a b c d : UInt8) (rest : Bytes) :
    Spec.musicRows (a :: b :: c :: d :: rest) =
      Spec.musicRow (a :: b :: c :: d :: rest) 0 :: Spec.musicRows rest := by
  unfold Spec.musicRows
  rw [show (a :: b :: c :: d :: rest).length / 4 = rest.length / 4 + 1 by simp; omega,
    List.range_succ_eq_map, List.map_cons, List.map_map]
  exact congrArg _ (List.map_congr_left fun i _ => musicRow_shift a b c d rest i)

theorem musicRow_zero (a b c d : UInt8) (rest : Bytes) :
    Spec.musicRow (a :: b :: c :: d :: rest) 0 = musicEnc a b c d := by
  simp only [musicEnc, toHex, List.cons_append, List.nil_append,
    (flags_bits _ _ _ (hiBit_cases a) (hiBit_cases b) (hiBit_cases c)).2.2.2, hiBit_toNat, and_low_toNat _ 127 7 rfl]
  rfl

theorem pack_toNat (w x y z : UInt8) (hw : w.toNat < 4) (hx : x.toNat < 4) (hy : y.toNat < 4)
    (hz : z.toNat < 4) :
    ((w <<< (0 : UInt8)) ||| (x <<< (2 : UInt8)) ||| (y <<< (4 : UInt8)) ||| (z <<< (6 : UInt8))).toNat
      = z.toNat * 64 + y.toNat * 16 + x.toNat * 4 + w.toNat := by
  have h1 := shl_or_toNat x w 2 2 rfl (by omega) (by omega) (by omega)
  have h2 := shl_or_toNat y ((x <<< 2) ||| w) 4 4 rfl (by omega) (by omega) (by omega)
  have h3 := shl_or_toNat z ((y <<< 4) ||| ((x <<< 2) ||| w)) 6 6 rfl (by omega) (by omega) (by omega)
  rw [UInt8.or_comm _ (z <<< 6), UInt8.or_comm _ (y <<< 4), UInt8.or_comm _ (x <<< 2), UInt8.shiftLeft_zero,
    h3, h2, h1]
  omega

theorem png_channels (r g b a : UInt8) :
    (decPixel r g b a).toNat = Spec.pixelByte r.toNat g.toNat b.toNat a.toNat := by
  have low2 := fun x : UInt8 => and_low_toNat x 3 2 rfl
  unfold decPixel Spec.pixelByte
  rw [pack_toNat _ _ _ _ (by rw [low2]; omega) (by rw [low2]; omega) (by rw [low2]; omega) (by rw [low2]; omega)]
  simp only [low2]

theorem shr2_and (x : UInt8) : (x &&& 0xfc) >>> (2 : UInt8) = x >>> (2 : UInt8) := by
  simpa using forall_u8 (fun x => (x &&& 0xfc) >>> (2 : UInt8) == x >>> (2 : UInt8)) (by decide +kernel) x

theorem enc_chan (c x : UInt8) :
    ((c &&& 0xfc) ||| (x &&& 3)) &&& 3 = x &&& 3 ∧
    ((c &&& 0xfc) ||| (x &&& 3)) >>> (2 : UInt8) = c >>> (2 : UInt8) := by
  have hx : (x &&& 3) &&& 3 = x &&& 3 := by rw [UInt8.and_assoc, UInt8.and_self]
  exact ⟨by rw [ins_and_cleared (by decide), hx],
    by rw [← shr2_and, ins_and_kept (by decide) (and_eq_zero_of_disjoint hx (by decide)), shr2_and]⟩

theorem unpack_pack (v : UInt8) : decPixel (v >>> (4 : UInt8)) (v >>> (2 : UInt8)) v (v >>> (6 : UInt8)) = v := by
  simpa using forall_u8 (fun v => decPixel (v >>> (4 : UInt8)) (v >>> (2 : UInt8)) v (v >>> (6 : UInt8)) == v)
    (by decide +kernel) v

theorem dec_enc_pixel (r g b a v : UInt8) :
    decPixel ((r &&& 0xfc) ||| ((v >>> (4 : UInt8)) &&& 3)) ((g &&& 0xfc) ||| ((v >>> (2 : UInt8)) &&& 3))
      ((b &&& 0xfc) ||| (v &&& 3)) ((a &&& 0xfc) ||| ((v >>> (6 : UInt8)) &&& 3)) = v := by
  unfold decPixel
  rw [(enc_chan r _).1, (enc_chan g _).1, (enc_chan b _).1, (enc_chan a _).1]
  exact unpack_pack v

theorem png_pixel_rt (r g b a v : UInt8) :
    (match encPixel r g b a v with
     | [r', g', b', a'] => decPixel r' g' b' a' = v ∧
         r' >>> (2 : UInt8) = r >>> (2 : UInt8) ∧ g' >>> (2 : UInt8) = g >>> (2 : UInt8) ∧
         b' >>> (2 : UInt8) = b >>> (2 : UInt8) ∧ a' >>> (2 : UInt8) = a >>> (2 : UInt8)
     | _ => False) :=
  ⟨dec_enc_pixel r g b a v, (enc_chan r _).2, (enc_chan g _).2, (enc_chan b _).2, (enc_chan a _).2⟩

theorem png_layout (c : Cart) (cb : Bytes)
    (hg : c.gfx.length = 0x2000) (hm : c.map.length = 0x1000) (hf : c.gff.length = 0x100)
    (hmu : c.music.length = 0x100) (hs : c.sfx.length = 0x1100) (hc : cb.length = 0x3d00) (hv : c.version < 256) :
    let p := picodata c cb
    pySlice p 0 0x2000 = c.gfx ∧ pySlice p 0x2000 0x3000 = c.map ∧ pySlice p 0x3000 0x3100 = c.gff ∧
    pySlice p 0x3100 0x3200 = c.music ∧ pySlice p 0x3200 0x4300 = c.sfx ∧ pySlice p 0x4300 0x8000 = cb ∧
    p.length = 0x8001 ∧ (p.getD 0x8000 0).toNat = c.version := by
  simp [picodata, pySlice_skip, pySlice_prefix, hg, hm, hf, hmu, hs, hc]
  omega

end Pico.C16L
