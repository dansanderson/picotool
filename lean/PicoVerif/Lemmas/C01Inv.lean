import PicoVerif.Lemmas.C01Str
/-! What every token of lexer output looks like, kind by kind (`WF`): `lex_cover` carries it from the two events that push a
token, a match of the table (`wf_of_matchOne`) and a multi-line construct that closes (`wf_of_scan`). -/
namespace Pico.C01L
open Pico.Lex Pico.Wr Pico.LexL

def LabelOK (d : Bytes) : Prop :=
  ∃ id, d = [58, 58] ++ id ++ [58, 58] ∧ id ≠ [] ∧ (∀ c, id.head? = some c → isIdentStart c = true) ∧
    ∀ b ∈ id, isIdentChar b = true

def NumOK (d : Bytes) : Prop := d ≠ [] ∧ ∃ r, matchOne shape (d ++ r) = some (.number, d.length)

def LineOK (d : Bytes) : Prop :=
  ∃ c body, d = c :: c :: body ∧ (c = 45 ∨ c = 47) ∧ (∀ b ∈ body, b ≠ 10) ∧ [45, 45, 91, 91].isPrefixOf d = false

def CommentOK (d : Bytes) : Prop := (∃ w, d = [45, 45, 91, 91] ++ w ∧ BlockOK w) ∨ LineOK d

theorem symbol_inv (s : Bytes) (n : Nat) (h : matchOne shape s = some (.symbol, n)) : s.take n ∈ symLits := by
  obtain ⟨l, hl, hm⟩ := matchOne_cases h
  rw [(mLit_some l s n hm).2.2]; exact hl

theorem keyword_inv (s : Bytes) (n : Nat) (h : matchOne shape s = some (.keyword, n)) : s.take n ∈ kws := by
  have := matchOne_cases h
  rw [FromEntry, C07L.mKeywordLA_run] at this
  split at this
  · next hc =>
    cases this
    rw [kw_eq] at hc; simpa using hc
  · cases this

theorem label_inv (s : Bytes) (n : Nat) (h : matchOne shape s = some (.label, n)) : LabelOK (s.take n) := by
  obtain ⟨-, c, id, z, rfl, hc, hall, rfl⟩ := mLabel_some (matchOne_cases h)
  refine ⟨c :: id, ?_, by simp, fun c' hc' => by simp at hc'; subst hc'; exact hc, ?_⟩
  · rw [show 3 + id.length + 2 = (id.length + 2) + 1 + 1 + 1 by omega]
    simp [List.take_succ_cons, List.take_append, List.take_of_length_le]
  · intro b hb
    rcases List.mem_cons.mp hb with rfl | hb
    · simp [isIdentChar, hc]
    · exact hall b hb

theorem lineOK_of (c : UInt8) (hc : c = 45 ∨ c = 47) (s : Bytes) (n : Nat) (hm : mLineComment c s = some n)
    (hpre : [45, 45, 91, 91].isPrefixOf s = false) : LineOK (s.take n) := by
  rw [mLineComment_eq] at hm
  split at hm
  · next hp =>
    cases hm
    obtain ⟨rest, rfl⟩ := List.isPrefixOf_iff_prefix.mp hp
    refine ⟨c, rest.take (spanLen (· != 10) rest), ?_, hc, fun x hx => ?_, Bool.eq_false_iff.mpr fun h4 => ?_⟩
    · simp [Nat.add_comm 2, List.take_succ_cons]
    · simpa using spanLen_take_all (· != 10) rest x hx
    · have := (List.isPrefixOf_iff_prefix.mp h4).trans (List.take_prefix _ _)
      rw [← List.isPrefixOf_iff_prefix, hpre] at this; cases this
  · cases hm

theorem comment_inv (s : Bytes) (n : Nat) (h : matchOne shape s = some (.comment, n))
    (hpre : [45, 45, 91, 91].isPrefixOf s = false) : LineOK (s.take n) := by
  rcases matchOne_cases h with h | h
  · exact lineOK_of 45 (Or.inl rfl) s n h hpre
  · exact lineOK_of 47 (Or.inr rfl) s n h hpre

theorem name_inv (s : Bytes) (n : Nat) (h : matchOne shape s = some (.name, n)) :
    s.take n = [63] ∨ NameLike (s.take n) := by
  rw [matchOne_eq, ← List.append_nil (_ ++ [(Kind.name, mName s), (Kind.name, mLit [63] s)])] at h
  obtain ⟨hA, hB⟩ := firstSome_block _ _ _ (by simp [candsPre, candsNum, numMatchers, candsSym]) (by simp) h
  -- the keyword entry stands before the name entries and did not match
  have hkw : mKeywordLA kws s = none := firstSome_none _ hA (.keyword, mKeywordLA kws s) (by simp)
  cases s with
  | nil => simp [firstSome, mName, mLit] at hB
  | cons c rest =>
    by_cases hs : isIdentStart c = true
    · right
      have hrun := C07L.identRun_cons rest hs
      obtain rfl : n = spanLen isIdentChar (c :: rest) := by
        rw [← hrun]; simpa [firstSome, mName, hs, eq_comm] using hB
      rw [C07L.mKeywordLA_run, kw_eq] at hkw
      refine ⟨?_, ?_, spanLen_take_all isIdentChar _, fun hmem => by simp [hmem] at hkw⟩
      · rw [← hrun, Nat.add_comm]; simp
      · rw [← hrun, Nat.add_comm]; intro c' hc'; simp at hc'; subst hc'; exact hs
    · left
      simp only [firstSome, mName_ne (by simpa using hs)] at hB
      cases hl : mLit [63] (c :: rest) with
      | none => rw [hl] at hB; cases hB
      | some m =>
        rw [hl] at hB
        cases hB
        exact (mLit_some _ _ _ hl).2.2

theorem number_inv (s : Bytes) (n : Nat) (h : matchOne shape s = some (.number, n)) (hn : n ≠ 0) :
    NumOK (s.take n) := by
  have hle := C07L.matchOne_bounded s (.number, n) h
  refine ⟨?_, s.drop n, ?_⟩
  · intro h0
    have := congrArg List.length h0
    rw [List.length_take, Nat.min_eq_left hle] at this
    exact hn this
  · rw [List.take_append_drop, List.length_take, Nat.min_eq_left hle]; exact h

/-- what every token produced by the lexer satisfies -/
structure WF (t : Tok) : Prop where
  str : t.kind = .string → ((t.mlq = none ∧ ∃ q, t.quote = some q ∧ (q = 34 ∨ q = 39)) ∨
    (t.quote = none ∧ ∃ n, t.mlq = some (List.replicate n 61) ∧ LongOK n t.data))
  comment : t.kind = .comment → CommentOK t.data
  plain : t.kind ≠ .string → t.quote = none ∧ t.mlq = none
  name : t.kind = .name → t.data = [63] ∨ NameLike t.data
  keyword : t.kind = .keyword → t.data ∈ kws
  symbol : t.kind = .symbol → t.data ∈ symLits
  number : t.kind = .number → NumOK t.data
  label : t.kind = .label → LabelOK t.data

theorem wf_of_matchOne (s : Bytes) (k : Kind) (n l c : Nat) (h : matchOne shape s = some (k, n)) (hn : n ≠ 0)
    (hpre : [45, 45, 91, 91].isPrefixOf s = false) :
    WF { kind := k, data := s.take n, line := l, col := c } := by
  refine ⟨?_, ?_, ?_, ?_, ?_, ?_, ?_, ?_⟩ <;> intro hk <;> simp only at hk
  · subst hk; exact absurd h matchOne_ne_string
  · subst hk; exact Or.inr (comment_inv s n h hpre)
  · exact ⟨rfl, rfl⟩
  · subst hk; exact name_inv s n h
  · subst hk; exact keyword_inv s n h
  · subst hk; exact symbol_inv s n h
  · subst hk; exact number_inv s n h hn
  · subst hk; exact label_inv s n h

theorem wf_block (s : Bytes) (k l c : Nat) (h : findSub [93, 93] s 0 = some k) :
    WF { kind := .comment, data := [45, 45, 91, 91] ++ s.take (k + 2), line := l, col := c } := by
  refine ⟨?_, ?_, ?_, ?_, ?_, ?_, ?_, ?_⟩ <;> intro hk <;> simp only at hk <;> try cases hk
  · left
    have hlen := (findSub_spec h).2.1
    simp only [List.length_cons, List.length_nil] at hlen
    refine ⟨s.take (k + 2), rfl, by simp; omega, ?_⟩
    intro z
    have := findSub_stab [93, 93] s k (by simp) h z
    simp only [List.length_cons, List.length_nil] at this
    rw [this]; simp; omega
  · exact ⟨rfl, rfl⟩

theorem wf_long (s : Bytes) (n k l c : Nat) (h : findSub (longPat n) s 0 = some k) :
    WF { kind := .string, data := s.take k, mlq := some (List.replicate n 61), line := l, col := c } := by
  refine ⟨?_, ?_, ?_, ?_, ?_, ?_, ?_, ?_⟩ <;> intro hk <;> simp only at hk <;> try cases hk
  · right
    refine ⟨rfl, n, rfl, ?_⟩
    intro z
    have hlen := (findSub_spec h).2.1
    have := findSub_stab (longPat n) s k (by simp [longPat]) h z
    rw [findSub_take h] at this
    rw [this]; simp; omega
  · exact absurd rfl hk

theorem wf_of_scan (s0 : Bytes) (l c : Nat) (s : Bytes) (t : Tok) (i : Nat)
    (h : scan ((start s0).mode l c) s = .ok (.inl (t, i))) : WF t := by
  rcases scan_closes h with ⟨-, k, hf, -, rfl⟩ | ⟨n, k, -, hf, -, rfl⟩ | ⟨q, d, hst, -, rfl⟩
  · exact wf_block s k l c hf
  · exact wf_long s n k l c hf
  · refine ⟨?_, ?_, ?_, ?_, ?_, ?_, ?_, ?_⟩ <;> intro hk <;> simp only at hk <;> try cases hk
    · exact Or.inl ⟨rfl, q, rfl, (start_quote hst).1.symm⟩
    · exact absurd rfl hk

theorem lex_wf (src : Bytes) (toks : List Tok) (h : lex [src] = .ok toks) : ∀ t ∈ toks, WF t := by
  obtain ⟨raws, -, -, hall⟩ := lex_cover (fun t _ => WF t)
    (fun s k n l c hst hmo hn => wf_of_matchOne s k n l c hmo hn ((start_plain_iff s).mp hst).1)
    wf_of_scan src toks h
  intro t ht
  obtain ⟨i, hi, rfl⟩ := List.getElem_of_mem ht
  exact (hall i hi).1

end Pico.C01L
