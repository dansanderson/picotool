import PicoVerif.Lemmas.LexMachine
import PicoVerif.Lemmas.LexNum
import PicoVerif.Lemmas.C06
/-! Helper lemmas for C07: the reference grammar's token by how the text starts, with its candidate list; symbols,
keywords, numerals, and with them `lexOne_plain` (at a plain start the table's first match is the grammar's longest); the
state machine against the reference token stream; cutting a chunk after a line feed. -/
namespace Pico.C07L
open Pico.Lex Pico.Spec.Lex Pico.LexL

def pick (cands : List (Kind × Nat)) : Option (Kind × Nat) :=
  cands.foldl (fun best c => match best with
    | none => some c
    | some b => if c.2 > b.2 then some c else some b) none

@[simp] theorem pick_nil : pick [] = none := rfl
@[simp] theorem pick_one (x : Kind × Nat) : pick [x] = some x := rfl
theorem pick_two (a b : Kind × Nat) : pick [a, b] = if b.2 > a.2 then some b else some a := rfl

def kindCand (k : Kind) (o : Option Nat) : List (Kind × Nat) := match o with | some n => [(k, n)] | none => []
def optCand (o : Option (Kind × Nat)) : List (Kind × Nat) := match o with | some kn => [kn] | none => []
def symCand (s : Bytes) : List (Kind × Nat) :=
  if longestPrefixIn symbolSet s > 0 then [(Kind.symbol, longestPrefixIn symbolSet s)] else []

theorem lexOne_start (s : Bytes) :
    lexOne s =
      match start s with
      | .longComment =>
        (findSub [93, 93] (s.drop 4) 0).map fun k => ({ kind := .comment, data := s.take (4 + k + 2) }, 4 + k + 2)
      | .longString n =>
        (findSub ([93] ++ List.replicate n 61 ++ [93]) (s.drop (n + 2)) 0).map fun k =>
          ({ kind := .string, data := (s.drop (n + 2)).take k, mlq := some (List.replicate n 61) }, n + 2 + k + n + 2)
      | .quote q =>
        (quoted q s.length (s.drop 1) [] 0).map fun vn => ({ kind := .string, data := vn.1, quote := some q }, 1 + vn.2)
      | .plain =>
        if [45, 45].isPrefixOf s ∨ [47, 47].isPrefixOf s then
          some ({ kind := .comment, data := s.take (2 + spanLen (· != 10) (s.drop 2)) }, 2 + spanLen (· != 10) (s.drop 2))
        else
          (pick (kindCand .space (mSpace s) ++ kindCand .newline (newlineLen s) ++ kindCand .number (numeralLen s) ++
            kindCand .label (mLabel s) ++ optCand (wordTok s) ++ symCand s)).map
            fun kn => ({ kind := kn.1, data := s.take kn.2 }, kn.2) := by
  unfold lexOne start
  by_cases h0 : [45, 45, 91, 91].isPrefixOf s = true
  · rw [if_pos h0, if_pos h0]
  rw [if_neg h0, if_neg h0]
  cases s with
  | nil => decide +kernel
  | cons c r =>
    dsimp only
    by_cases hB : c = 91 ∧ (r.drop (spanLen (· == 61) r)).head? = some 91
    · have hc : ¬([45, 45].isPrefixOf (c :: r) = true ∨ [47, 47].isPrefixOf (c :: r) = true) := by
        simp [List.isPrefixOf, hB.1]
      rw [if_pos hB, if_neg hc]
      obtain ⟨rfl, hB⟩ := hB
      simp only [hB, if_true]
    rw [if_neg hB]
    by_cases hc : [45, 45].isPrefixOf (c :: r) = true ∨ [47, 47].isPrefixOf (c :: r) = true
    · have hq : ¬(c = 39 ∨ c = 34) := by rintro (rfl | rfl) <;> simp [List.isPrefixOf] at hc
      rw [if_neg hq, if_pos hc, if_pos hc]
    rw [if_neg hc]
    -- the grammar's own test for a long bracket fails
    split
    · next n hn =>
      split at hn
      · next r' heq => cases heq; rw [if_neg fun h => hB ⟨rfl, h⟩] at hn; cases hn
      · cases hn
    by_cases hq : c = 39 ∨ c = 34
    · rw [if_pos hq, if_pos hq.symm]; rfl
    rw [if_neg hq, if_neg hc, if_neg fun h => hq h.symm]
    -- both sides split on the longest candidate
    unfold pick kindCand optCand symCand
    generalize List.foldl _ _ _ = p
    rcases p with _ | ⟨k, n⟩ <;> rfl

theorem newlineLen_ne {c : UInt8} {r : Bytes} (h1 : c ≠ 13) (h2 : c ≠ 10) : newlineLen (c :: r) = none := by
  unfold newlineLen
  split
  · next heq => cases heq; exact absurd rfl h1
  · next heq => cases heq; exact absurd rfl h2
  · next heq => cases heq; exact absurd rfl h1
  · rfl

theorem wordTok_ne {c : UInt8} {r : Bytes} (h : isIdentStart c = false) (h2 : c ≠ 63) :
    wordTok (c :: r) = none := by
  simp [wordTok, mName_ne h, h2]

theorem symCand_eq (s : Bytes) :
    symCand s = optCand ((symbolSet.find? fun l => l.isPrefixOf s).map fun l => (Kind.symbol, l.length)) := by
  cases hf : symbolSet.find? (fun l => l.isPrefixOf s) with
  | none =>
    have : longestPrefixIn symbolSet s ≤ 0 :=
      longest_le fun l hl hp => absurd hp (List.find?_eq_none.mp hf l hl)
    simp [symCand, Nat.le_zero.mp this, optCand]
  | some l =>
    have hmem := List.mem_of_find?_eq_some hf
    have hp : l.isPrefixOf s = true := by simpa using List.find?_some hf
    have h1 : longestPrefixIn symbolSet s ≤ l.length := longest_le (symbols_first_longest s l hf)
    have h2 := longest_ge hmem hp
    have h3 : l.length > 0 := List.length_pos_iff.mpr (symbolSet_ne l hmem)
    have : longestPrefixIn symbolSet s = l.length := by omega
    simp [symCand, this, h3, optCand]

theorem firstSome_sym (s : Bytes) (r : List (Kind × Option Nat)) :
    firstSome ((.symbol, (symbolSet.find? fun l => l.isPrefixOf s).map (·.length)) :: r) =
      (pick (symCand s)).or (firstSome r) := by
  rw [firstSome_head, symCand_eq]
  cases symbolSet.find? (fun l => l.isPrefixOf s) <;> rfl

theorem symCand_of_le {s : Bytes} {k : Nat} (h : longestPrefixIn symbolSet s ≤ k) :
    symCand s = [] ∨ ∃ m, m ≤ k ∧ symCand s = [(Kind.symbol, m)] := by
  unfold symCand
  split
  · exact Or.inr ⟨_, h, rfl⟩
  · exact Or.inl rfl

theorem symCand_ne {c : UInt8} {r : Bytes} (h : symStart c = false) : symCand (c :: r) = [] := by
  rw [symCand_eq, symFind_ne h]; rfl

theorem identRun_cons {c : UInt8} (r : Bytes) (h : isIdentStart c = true) :
    1 + spanLen isIdentChar r = spanLen isIdentChar (c :: r) := by
  simp [spanLen, isIdentChar, h]; omega

/-- the test of `mKeywordLA` (a prefix of the text with no identifier byte after it) holds of a keyword exactly when it is
the text's identifier run -/
theorem kw_is_run {kw s : Bytes} (hkw : ∀ b ∈ kw, isIdentChar b = true) :
    (kw.isPrefixOf s && !((s.drop kw.length).head?.map isIdentChar).getD false) = true ↔
      kw = s.take (spanLen isIdentChar s) := by
  constructor
  · intro h
    simp only [Bool.and_eq_true, Bool.not_eq_true'] at h
    obtain ⟨t, rfl⟩ := List.isPrefixOf_iff_prefix.mp h.1
    have ht : spanLen isIdentChar t = 0 := spanLen_head_false _ _ fun c hc => by simpa [hc] using h.2
    rw [spanLen_append_all _ _ _ hkw, ht]; simp
  · intro h
    have hle := spanLen_le isIdentChar s
    have hlen : kw.length = spanLen isIdentChar s := by rw [h, List.length_take]; omega
    simp only [Bool.and_eq_true, Bool.not_eq_true', hlen]
    refine ⟨List.isPrefixOf_iff_prefix.mpr (h ▸ List.take_prefix _ _), ?_⟩
    cases hh : (s.drop (spanLen isIdentChar s)).head? with
    | none => rfl
    | some c => simp [spanLen_drop_head _ _ _ hh]

theorem mKeywordLA_run (s : Bytes) :
    mKeywordLA Gen.matcherKeywords s =
      if Gen.luaKeywords.contains (s.take (spanLen isIdentChar s)) then some (spanLen isIdentChar s) else none := by
  unfold mKeywordLA
  rw [kw_eq]
  have hle := spanLen_le isIdentChar s
  cases hf : Gen.matcherKeywords.find? _ with
  | some kw =>
    have hmem := List.mem_of_find?_eq_some hf
    have hp := List.find?_some hf
    have hrun := (kw_is_run (matcherKeywords_all_identChar kw hmem)).mp hp
    rw [if_pos (by simpa [← hrun] using hmem), Option.map_some, hrun, List.length_take, Nat.min_eq_left hle]
  | none =>
    rw [if_neg]; rfl
    intro hc
    have hmem : s.take (spanLen isIdentChar s) ∈ Gen.matcherKeywords := by simpa using hc
    have := List.find?_eq_none.mp hf _ hmem
    exact this ((kw_is_run (matcherKeywords_all_identChar _ hmem)).mpr rfl)

def firstNum (s : Bytes) : Option Nat :=
  (mRadix 120 88 isHexDigit s).or ((mRadixFrac 120 88 isHexDigit s).or ((mRadix 98 66 isBinDigit s).or
    ((mRadixFrac 98 66 isBinDigit s).or ((mDecimal s).or (mDotDecimal s)))))

theorem mRadix_ne2 {p1 p2 : UInt8} {dig : UInt8 → Bool} {z x : UInt8} {r : Bytes} (h1 : x ≠ p1) (h2 : x ≠ p2) :
    mRadix p1 p2 dig (z :: x :: r) = none := by
  simp [mRadix, h1, h2]

theorem mRadixFrac_ne2 {p1 p2 : UInt8} {dig : UInt8 → Bool} {z x : UInt8} {r : Bytes} (h1 : x ≠ p1) (h2 : x ≠ p2) :
    mRadixFrac p1 p2 dig (z :: x :: r) = none := by
  cases r <;> simp [mRadixFrac, h1, h2]

theorem mRadix_pos {p1 p2 : UInt8} {dig : UInt8 → Bool} {s : Bytes} {n : Nat}
    (h : mRadix p1 p2 dig s = some n) : 1 ≤ n := by
  rw [mRadix_shape] at h; exact byteThen_pos h

theorem mRadixFrac_pos {p1 p2 : UInt8} {dig : UInt8 → Bool} {s : Bytes} {n : Nat}
    (h : mRadixFrac p1 p2 dig s = some n) : 1 ≤ n := by
  rw [mRadixFrac_shape] at h; exact byteThen_pos h

/-- after the two-byte prefix `mRadix` wants a digit, `mRadixFrac` a `.` -/
theorem radix_excl {p1 p2 : UInt8} {dig : UInt8 → Bool} (s : Bytes) (h46 : dig 46 = false) :
    mRadix p1 p2 dig s = none ∨ mRadixFrac p1 p2 dig s = none := by
  match s with
  | z :: x :: y :: r =>
    by_cases hy : y = 46
    · subst hy; exact Or.inl (by simp [mRadix, spanLen, h46])
    · exact Or.inr (by simp [mRadixFrac, hy])
  | [] | [_] | [_, _] => exact Or.inr rfl

theorem mDecimal_zero_x {x : UInt8} {r : Bytes} (h : x = 120 ∨ x = 88 ∨ x = 98 ∨ x = 66) :
    mDecimal (48 :: x :: r) = some 1 := by
  rcases h with rfl | rfl | rfl | rfl <;> simp [mDecimal, spanLen, isDigit, expLen]

theorem mDecimal_isSome {c : UInt8} {r : Bytes} (h : isDigit c = true) : ∃ n, mDecimal (c :: r) = some n := by
  simp [mDecimal, spanLen, h]

theorem numeral_first_max (s : Bytes) : firstNum s = numeralLen s := by
  unfold firstNum numeralLen
  match s with
  | [] => simp [mRadix, mRadixFrac, mDecimal, mDotDecimal, spanLen, maxOpt]
  | c :: r =>
    by_cases hc : c = 48
    · subst hc
      have hdd : mDotDecimal (48 :: r) = none := mDotDecimal_ne (by decide)
      match r with
      | [] => cases hm : mDecimal [48] <;> simp [mRadix, mRadixFrac, hdd, maxOpt]
      | x :: rest =>
        by_cases hx : x = 120 ∨ x = 88
        · have hx' : x ≠ 98 ∧ x ≠ 66 := by rcases hx with rfl | rfl <;> decide
          rw [mRadix_ne2 (p1 := 98) hx'.1 hx'.2, mRadixFrac_ne2 (p1 := 98) hx'.1 hx'.2, hdd,
            mDecimal_zero_x (by rcases hx with rfl | rfl <;> simp)]
          rcases radix_excl (p1 := 120) (p2 := 88) (dig := isHexDigit) (48 :: x :: rest) (by decide) with h | h
          · rw [h]
            cases hf : mRadixFrac 120 88 isHexDigit (48 :: x :: rest) with
            | none => simp [maxOpt]
            | some n => simp [maxOpt, Nat.max_eq_left (mRadixFrac_pos hf)]
          · rw [h]
            cases hf : mRadix 120 88 isHexDigit (48 :: x :: rest) with
            | none => simp [maxOpt]
            | some n => simp [maxOpt, Nat.max_eq_left (mRadix_pos hf)]
        · by_cases hx2 : x = 98 ∨ x = 66
          · have hx' : x ≠ 120 ∧ x ≠ 88 := by rcases hx2 with rfl | rfl <;> decide
            rw [mRadix_ne2 (p1 := 120) hx'.1 hx'.2, mRadixFrac_ne2 (p1 := 120) hx'.1 hx'.2, hdd,
              mDecimal_zero_x (by rcases hx2 with rfl | rfl <;> simp)]
            rcases radix_excl (p1 := 98) (p2 := 66) (dig := isBinDigit) (48 :: x :: rest) (by decide) with h | h
            · rw [h]
              cases hf : mRadixFrac 98 66 isBinDigit (48 :: x :: rest) with
              | none => simp [maxOpt]
              | some n => simp [maxOpt, Nat.max_eq_left (mRadixFrac_pos hf)]
            · rw [h]
              cases hf : mRadix 98 66 isBinDigit (48 :: x :: rest) with
              | none => simp [maxOpt]
              | some n => simp [maxOpt, Nat.max_eq_left (mRadix_pos hf)]
          · simp only [not_or] at hx hx2
            rw [mRadix_ne2 hx.1 hx.2, mRadixFrac_ne2 hx.1 hx.2, mRadix_ne2 hx2.1 hx2.2,
              mRadixFrac_ne2 hx2.1 hx2.2, hdd]
            cases mDecimal (48 :: x :: rest) <;> simp [maxOpt]
    · rw [mRadix_ne hc, mRadixFrac_ne hc, mRadix_ne hc, mRadixFrac_ne hc]
      by_cases hd : isDigit c = true
      · have : c ≠ 46 := by rintro rfl; simp [isDigit] at hd
        rw [mDotDecimal_ne this]
        cases mDecimal (c :: r) <;> simp [maxOpt]
      · rw [mDecimal_ne (by simpa using hd)]
        cases mDotDecimal (c :: r) <;> simp [maxOpt]

theorem matchOne_table (s : Bytes) : matchOne Gen.matcherShape s = firstSome (candsPre s ++
    [(.number, numeralLen s), (.label, mLabel s), (.keyword, mKeywordLA Gen.matcherKeywords s),
     (.symbol, (symbolSet.find? fun l => l.isPrefixOf s).map (·.length)), (.name, mName s), (.name, mLit [63] s)]) := by
  rw [matchOne_eq, ← numeral_first_max, firstNum]
  simp only [firstSome_append, candsNum, numMatchers, List.map_cons, List.map_nil, candsSym,
    firstSome_lits _ _ _ symbolSet_ne, firstSome_head,
    firstSome_nil, Option.or_assoc, Option.map_map, Function.comp_def, Option.or_none, Option.map_or]

theorem numeralLen_ne {c : UInt8} {r : Bytes} (h : isDigit c = false) (h2 : c ≠ 46) :
    numeralLen (c :: r) = none := by
  have : c ≠ 48 := by rintro rfl; simp [isDigit] at h
  rw [← numeral_first_max, firstNum, mRadix_ne this, mRadixFrac_ne this, mRadix_ne this, mRadixFrac_ne this,
    mDecimal_ne h, mDotDecimal_ne h2]; rfl

theorem numeralLen_dot (r : Bytes) : numeralLen (46 :: r) = mDotDecimal (46 :: r) := by
  have h : (46 : UInt8) ≠ 48 := by decide
  rw [← numeral_first_max, firstNum, mRadix_ne h, mRadixFrac_ne h, mRadix_ne h, mRadixFrac_ne h,
    mDecimal_ne (by decide)]; rfl

theorem sym_len3 : ∀ l ∈ symbolSet, l.length ≤ 3 := by decide +kernel

theorem sym_dot : symbolSet.all (fun l => l.head? != some 46 || decide (l.length ≤ 1) || l[1]? == some 46) = true := by
  decide +kernel

theorem longest_dot_digit {d : UInt8} {r : Bytes} (hd : isDigit d = true) :
    longestPrefixIn symbolSet (46 :: d :: r) ≤ 1 := by
  apply longest_le
  intro l hl hp
  have := List.all_eq_true.mp sym_dot l hl
  rcases l with _ | ⟨a, _ | ⟨b, l'⟩⟩
  · exact Nat.zero_le _
  · exact Nat.le_refl _
  · simp only [List.isPrefixOf, Bool.and_eq_true, beq_iff_eq] at hp
    obtain ⟨rfl, rfl, _⟩ := hp
    simp at this
    subst this
    simp [isDigit] at hd

/-- At a plain start the reference grammar's token is the first match of the ordered table. By the first byte at most
two candidates can match. Where two can (CR: `\r\n` or `\r`, `.`: numeral or symbol, `:`: label or symbol, an identifier
start: keyword or name), the one the table tries first is at least as long. -/
theorem lexOne_plain (s : Bytes) (h : start s = .plain) :
    lexOne s = (matchOne Gen.matcherShape s).map fun kn => ({ kind := kn.1, data := s.take kn.2 }, kn.2) := by
  rcases s with _ | ⟨c, r⟩
  · rw [matchOne_eq]; rfl
  rw [matchOne_table, lexOne_start, h]
  simp only [candsPre, List.cons_append, List.nil_append, mLineComment_eq]
  by_cases hc1 : [45, 45].isPrefixOf (c :: r) = true
  · simp [hc1]
  by_cases hc2 : [47, 47].isPrefixOf (c :: r) = true
  · simp [hc1, hc2]
  rw [if_neg (show ¬([45, 45].isPrefixOf (c :: r) = true ∨ [47, 47].isPrefixOf (c :: r) = true) by simp [hc1, hc2])]
  simp only [hc1, hc2, Bool.false_eq_true, if_false, firstSome_skip]
  refine congrArg (Option.map _) (Eq.symm ?_)
  clear hc1 hc2 h
  by_cases h32 : c = 32
  · subst h32
    simp [mSpace_eq, newlineLen_ne, numeralLen_ne, mLabel_ne, wordTok_ne, isDigit, isIdentStart,
      symCand_ne (symStart_false (b := 32) (by decide)), kindCand, optCand]
  by_cases h9 : c = 9
  · subst h9
    simp [mSpace_eq, newlineLen_ne, numeralLen_ne, mLabel_ne, wordTok_ne, isDigit, isIdentStart,
      symCand_ne (symStart_false (b := 9) (by decide)), kindCand, optCand]
  have hsp := mSpace_ne (r := r) h32 h9
  by_cases h10 : c = 10
  · subst h10
    simp [hsp, mLit, newlineLen, numeralLen_ne, mLabel_ne, wordTok_ne, isDigit, isIdentStart,
      symCand_ne (symStart_false (b := 10) (by decide)), kindCand, optCand]
  by_cases h13 : c = 13
  · subst h13
    rw [hsp, numeralLen_ne (by decide) (by decide), mLabel_ne (by decide), wordTok_ne (by decide) (by decide),
      symCand_ne (symStart_false (by decide))]
    -- `\r\n` or a lone `\r`: what the table tries after the newlines plays no part
    generalize ((Kind.number, _) :: _ : List (Kind × Option Nat)) = later
    cases r with
    | nil => simp [mLit, newlineLen, kindCand, optCand]
    | cons d r' =>
      by_cases hd : d = 10
      · subst hd; simp [mLit, newlineLen, kindCand, optCand]
      · simp [mLit, newlineLen, kindCand, optCand, hd, Ne.symm hd]
  have hnl := newlineLen_ne (r := r) h13 h10
  simp only [hsp, mLit_ne h13, mLit_ne h10, hnl, firstSome_skip, kindCand, List.nil_append]
  clear hsp hnl h32 h9 h10 h13
  by_cases h46 : c = 46
  · subst h46
    have hkw : mKeywordLA Gen.matcherKeywords (46 :: r) = none := mKeywordLA_ne (kwStart_false (by decide))
    rw [numeralLen_dot, mLabel_ne (by decide), hkw, mName_ne (by decide), mLit_ne (by decide),
      wordTok_ne (by decide) (by decide)]
    cases hdd : mDotDecimal (46 :: r) with
    | none => simp [optCand, firstSome_sym]
    | some n =>
      obtain ⟨hn, d, r', he, hd⟩ := mDotDecimal_some hdd
      cases he
      rcases symCand_of_le (longest_dot_digit (r := r') hd) with h | ⟨m, hm, h⟩
      · simp [h, optCand]
      · simp [h, optCand, pick_two]; omega
  by_cases h58 : c = 58
  · subst h58
    have hkw : mKeywordLA Gen.matcherKeywords (58 :: r) = none := mKeywordLA_ne (kwStart_false (by decide))
    rw [numeralLen_ne (by decide) (by decide), hkw, mName_ne (by decide), mLit_ne (by decide),
      wordTok_ne (by decide) (by decide)]
    cases hlb : mLabel (58 :: r) with
    | none => simp [optCand, firstSome_sym]
    | some n =>
      have hn := (mLabel_some hlb).1
      rcases symCand_of_le (s := 58 :: r) (longest_le (fun l hl _ => sym_len3 l hl)) with h | ⟨m, hm, h⟩
      · simp [h, optCand]
      · simp [h, optCand, pick_two]; omega
  by_cases h63 : c = 63
  · subst h63
    have hkw : mKeywordLA Gen.matcherKeywords (63 :: r) = none := mKeywordLA_ne (kwStart_false (by decide))
    rw [numeralLen_ne (by decide) (by decide), hkw, mName_ne (by decide), mLabel_ne (by decide),
      symFind_ne (symStart_false (by decide)), symCand_ne (symStart_false (by decide))]
    simp [mLit, wordTok, mName, isIdentStart, optCand]
  by_cases hd : isDigit c = true
  · obtain ⟨hi, hsy, hk⟩ := digit_facts c hd
    rw [mLabel_ne h58, mKeywordLA_ne hk, symFind_ne hsy, mName_ne hi, mLit_ne h63,
      wordTok_ne hi h63, symCand_ne hsy]
    cases numeralLen (c :: r) <;> simp [optCand]
  have hd' : isDigit c = false := by simpa using hd
  rw [numeralLen_ne hd' h46, mLabel_ne h58]
  by_cases hi : isIdentStart c = true
  · have hsy := identStart_not_sym hi
    rw [symFind_ne hsy, symCand_ne hsy, mKeywordLA_run]
    simp only [wordTok, mName, hi, if_true, identRun_cons r hi]
    by_cases hk : List.take (spanLen isIdentChar (c :: r)) (c :: r) ∈ Gen.luaKeywords
    · simp [hk, optCand]
    · simp [hk, optCand]
  have hi' : isIdentStart c = false := by simpa using hi
  rw [mKeywordLA_ne (kwStart_false hi'), mName_ne hi', mLit_ne h63, wordTok_ne hi' h63]
  simp [optCand, firstSome_sym]

/-- the state after a complete token `t` of length `n` read from `s` in normal mode -/
def stepSt (st : LexSt) (t : Tok) (n : Nat) (s : Bytes) : LexSt :=
  { toks := st.toks.push { t with line := st.line, col := st.col },
    line := (posAfter st.line st.col (s.take n)).1, col := (posAfter st.line st.col (s.take n)).2,
    mode := .normal }

/-- a token whose opening delimiter (`d` bytes) switches the mode and which closes in the same chunk is read in
two steps -/
theorem open_close (st : LexSt) (s : Bytes) (m : Mode) (d i n : Nat) (t t' : Tok) (hd : d ≠ 0) (hmn : m ≠ .normal)
    (hopen : processToken Gen.matcherShape st s = .ok (advance { st with mode := m } (s.take d), d))
    (hscan : scan m (s.drop d) = .ok (.inl (t', i)))
    (ht : t' = { t with line := st.line, col := st.col }) (hn : n = d + i) :
    pl Gen.matcherShape st s = pl Gen.matcherShape (stepSt st t n s) (s.drop n) := by
  have hmode : (advance { st with mode := m } (s.take d)).mode = m := by rw [advance_eq]
  have hi : i ≠ 0 := by have := (scan_closed hscan).1; omega
  rw [pl_step, hopen]
  simp only [hd, if_false]
  rw [pl_step, processToken_scan _ _ _ (by rw [hmode]; exact hmn), hmode, hscan]
  simp only [hi, if_false, List.drop_drop, hn, ht]
  congr 1
  simp only [advance_eq, stepSt, ← List.take_add, ← posAfter_append]

/-- one reference token = one or two steps of the state machine -/
theorem token_step (st : LexSt) (s : Bytes) (t : Tok) (n : Nat) (hm : st.mode = .normal) (hs : s ≠ [])
    (h : lexOne s = some (t, n)) (hn : n ≠ 0) :
    pl Gen.matcherShape st s = pl Gen.matcherShape (stepSt st t n s) (s.drop n) := by
  have hpt := processToken_normal Gen.matcherShape st s hm hs
  cases hst : start s with
  | plain =>
    rw [lexOne_plain s hst] at h
    obtain ⟨⟨k, n'⟩, hmo, he⟩ := Option.map_eq_some_iff.mp h
    cases he
    rw [pl_step, hpt, hst, hmo]
    simp only [hn, if_false]
    congr 1
    rw [advance_eq, hm]; rfl
  | longComment =>
    rw [lexOne_start, hst] at h
    rw [hst] at hpt
    obtain ⟨k, hk, he⟩ := Option.map_eq_some_iff.mp h
    cases he
    refine open_close st s _ 4 (k + 2) _ _ _ (by decide) (by simp) hpt (by simp only [scan, hk]; rfl) ?_ (by omega)
    have htxt : s.take 4 = [45, 45, 91, 91] := by have := start_text s; rwa [hst] at this
    rw [← htxt, ← List.take_add, Nat.add_assoc]
  | longString n0 =>
    rw [lexOne_start, hst] at h
    rw [hst] at hpt
    obtain ⟨k, hk, he⟩ := Option.map_eq_some_iff.mp h
    cases he
    refine open_close st s _ (n0 + 2) (k + n0 + 2) _ _ _ (by omega) (by simp) hpt ?_ rfl (by omega)
    simp only [scan, hk, List.length_replicate, List.nil_append]
  | quote q =>
    rw [lexOne_start, hst] at h
    rw [hst] at hpt
    obtain ⟨⟨v, n'⟩, hqd, he⟩ := Option.map_eq_some_iff.mp h
    cases he
    refine open_close st s _ 1 n' _ _ _ (by decide) (by simp) hpt ?_ rfl rfl
    simp only [scan, C06L.decode_agrees_gen q v n' _ _ [] 0 hqd]

theorem run_agrees (fuelS : Nat) (s : Bytes) (st : LexSt) (ts : List Tok) (hm : st.mode = .normal)
    (h : lexAll fuelS s st.line st.col = some ts) :
    ∃ st', pl Gen.matcherShape st s = .ok st' ∧ st'.mode = .normal ∧ st'.toks.toList = st.toks.toList ++ ts := by
  induction fuelS generalizing s st ts with
  | zero => simp [lexAll] at h
  | succ fs ih =>
    rw [lexAll] at h
    by_cases he : s.isEmpty = true
    · rw [if_pos he] at h
      cases h
      have : s = [] := by simpa using he
      subst this
      exact ⟨st, pl_nil _ st, hm, by simp⟩
    · rw [if_neg he] at h
      cases hlo : lexOne s with
      | none => rw [hlo] at h; cases h
      | some tn =>
        obtain ⟨t, n⟩ := tn
        rw [hlo] at h
        simp only at h
        by_cases hn : n = 0
        · rw [if_pos hn] at h; cases h
        · rw [if_neg hn] at h
          cases hrest : lexAll fs (s.drop n) (posAfter st.line st.col (s.take n)).1
              (posAfter st.line st.col (s.take n)).2 with
          | none => rw [hrest] at h; cases h
          | some rest =>
            rw [hrest] at h
            simp only [Option.map_some, Option.some.injEq] at h
            subst h
            obtain ⟨st', h1, h2, h3⟩ := ih (s.drop n) (stepSt st t n s) rest rfl hrest
            refine ⟨st', (token_step st s t n hm (by simpa using he) hlo hn).trans h1, h2, ?_⟩
            rw [h3]
            simp [stepSt]

def LocalM (m : Bytes → Option Nat) : Prop :=
  ∀ a rest : Bytes, m (a ++ 10 :: rest) = m (a ++ [10])

def BoundedM (m : Bytes → Option Nat) : Prop := ∀ s n, m s = some n → n ≤ s.length

theorem mLineComment_local (c0 : UInt8) (hc : c0 ≠ 10) : LocalM (mLineComment c0) := by
  intro a rest
  match a with
  | [] => cases rest <;> simp [mLineComment, Ne.symm hc]
  | [x] => simp [mLineComment, Ne.symm hc]
  | x :: y :: a' =>
    simp only [List.cons_append, mLineComment]
    rw [spanLen_lf _ (by decide), spanLen_lf _ (by decide)]

theorem mLineComment_bounded (c0 : UInt8) : BoundedM (mLineComment c0) := by
  intro s n h
  match s with
  | [] => simp [mLineComment] at h
  | [x] => simp [mLineComment] at h
  | x :: y :: a' =>
    simp only [mLineComment] at h
    split at h
    · cases h; have := spanLen_le (· != 10) a'; simp; omega
    · cases h

theorem mSpace_local : LocalM mSpace := by
  intro a rest
  simp only [mSpace, spanLen_lf (fun b => b == 32 || b == 9) (by decide)]

theorem mSpace_bounded : BoundedM mSpace := by
  intro s n h
  simp only [mSpace] at h
  split at h
  · cases h
  · cases h; exact spanLen_le _ _

theorem spanLen_lf' (p : UInt8 → Bool) (hp : p 10 = false) (a : Bytes) :
    spanLen p (a ++ [10]) = spanLen p a := spanLen_lf p hp a []

theorem pref_local (l : Bytes) (hl : 10 ∉ l) (a rest : Bytes) :
    l.isPrefixOf (a ++ 10 :: rest) = l.isPrefixOf (a ++ [10]) := by
  rw [isPrefixOf_append_stop l a rest 10 hl, isPrefixOf_append_stop l a [] 10 hl]

theorem mLit_local (l : Bytes) (hl : 10 ∉ l) : LocalM (mLit l) := by
  intro a rest
  simp only [mLit, pref_local l hl]

/-- the two literals that contain a line feed end with it -/
theorem mLit_lf_local : LocalM (mLit [10]) := fun a rest => by
  cases a <;> simp [mLit, List.isPrefixOf]

theorem mLit_crlf_local : LocalM (mLit [13, 10]) := fun a rest => by
  rcases a with _ | ⟨c, _ | ⟨c', a'⟩⟩ <;> simp [mLit, List.isPrefixOf]

theorem num_local {m : Bytes → Option Nat} (h : NumMatcher m) : LocalM m :=
  fun a rest => (h.lf a rest).trans (h.lf a []).symm

theorem num_bounded {m : Bytes → Option Nat} (h : NumMatcher m) : BoundedM m :=
  fun s n hm => Nat.le_trans (h.le s n hm) (spanLen_le _ _)

theorem mLabel_local : LocalM mLabel := by
  intro a rest
  have hd : isIdentChar 10 = false := by decide
  match a with
  | [] => match rest with
    | [] => simp [mLabel]
    | [_] => simp [mLabel]
    | _ :: _ :: _ => simp [mLabel]
  | [x] => cases rest <;> simp [mLabel]
  | [x, y] => simp [mLabel, isIdentStart]
  | x :: y :: c :: a' =>
    simp only [List.cons_append, mLabel, spanLen_lf _ hd, drop_span_app]
    generalize a'.drop (spanLen isIdentChar a') = a2
    match a2 with
    | [] => cases rest <;> simp
    | [u] => simp
    | u :: v :: a3 => simp

theorem mLabel_bounded : BoundedM mLabel := by
  intro s n h
  obtain ⟨-, c, id, z, rfl, -, -, rfl⟩ := mLabel_some h
  simp only [List.length_cons, List.length_append]; omega

theorem mName_local : LocalM mName := by
  intro a rest
  have hd : isIdentChar 10 = false := by decide
  match a with
  | [] => simp [mName, isIdentStart]
  | c :: a' => simp only [List.cons_append, mName, spanLen_lf _ hd]

theorem mName_bounded : BoundedM mName := by
  intro s n h
  match s with
  | [] => simp [mName] at h
  | c :: r =>
    simp only [mName] at h
    have := spanLen_le isIdentChar r
    split at h
    · cases h; simp only [List.length_cons]; omega
    · cases h

/-- the keyword entry looks at the identifier run, which a line feed ends -/
theorem mKeywordLA_local : LocalM (mKeywordLA Gen.matcherKeywords) := by
  intro a rest
  have hd : isIdentChar 10 = false := by decide
  simp only [mKeywordLA_run, spanLen_lf _ hd, List.take_append_of_le_length (spanLen_le isIdentChar a)]

theorem mKeywordLA_bounded : BoundedM (mKeywordLA Gen.matcherKeywords) := by
  intro s n h
  rw [mKeywordLA_run] at h
  split at h <;> cases h
  exact spanLen_le _ _

theorem sym_no_lf : ∀ l ∈ symbolSet, 10 ∉ l := by decide +kernel

theorem matchOne_local (a rest : Bytes) :
    matchOne Gen.matcherShape (a ++ 10 :: rest) = matchOne Gen.matcherShape (a ++ [10]) := by
  have hsym : candsSym (a ++ 10 :: rest) = candsSym (a ++ [10]) :=
    List.map_congr_left fun l hl => by rw [mLit_local l (sym_no_lf l hl) a rest]
  have hnum : candsNum (a ++ 10 :: rest) = candsNum (a ++ [10]) := by
    simp only [candsNum]
    exact List.map_congr_left fun m hm => by rw [num_local (numMatchers_num m hm) a rest]
  simp only [matchOne_eq, candsPre, hsym, hnum]
  rw [mLineComment_local 45 (by decide) a rest, mLineComment_local 47 (by decide) a rest, mSpace_local a rest,
    mLit_crlf_local a rest, mLit_lf_local a rest, mLit_local [13] (by decide) a rest,
    mLabel_local a rest, mKeywordLA_local a rest, mName_local a rest, mLit_local [63] (by decide) a rest]

theorem matchOne_bounded (s : Bytes) (kn : Kind × Nat) (h : matchOne Gen.matcherShape s = some kn) :
    kn.2 ≤ s.length := by
  obtain ⟨k, n⟩ := kn
  have hc := matchOne_cases h
  have hlit : ∀ l, mLit l s = some n → n ≤ s.length := fun l hl => by
    obtain ⟨rfl, hp, -⟩ := mLit_some l s n hl
    exact hp.length_le
  cases k <;> simp only [FromEntry] at hc
  · exact mSpace_bounded s n hc
  · rcases hc with hc | hc | hc <;> exact hlit _ hc
  · rcases hc with hc | hc <;> exact mLineComment_bounded _ s n hc
  · obtain ⟨m, hm, hc⟩ := num_of_matchOne h
    exact num_bounded (numMatchers_num m hm) s n hc
  · rcases hc with hc | hc
    · exact mName_bounded s n hc
    · exact hlit _ hc
  · exact mLabel_bounded s n hc
  · exact mKeywordLA_bounded s n hc
  · obtain ⟨l, -, hc⟩ := hc
    exact hlit l hc

def shiftStr (j : Nat) : Except Err (Bool × Bytes × Nat) → Except Err (Bool × Bytes × Nat)
  | .error e => .error e
  | .ok (b, acc, i) => .ok (b, acc, i + j)

theorem strLoop_shift (delim : UInt8) (f : Nat) (s acc : Bytes) (i j : Nat) :
    strLoop delim f s acc (i + j) = shiftStr j (strLoop delim f s acc i) := by
  induction f generalizing s acc i with
  | zero => simp [strLoop, shiftStr]
  | succ f ih =>
    cases s with
    | nil => simp [strLoop, shiftStr]
    | cons c rest =>
      simp only [strLoop]
      split
      · simp [shiftStr]; omega
      · split
        · cases escapeAt rest with
          | none => rfl
          | some bn =>
            obtain ⟨bs, n⟩ := bn
            simp only
            rw [show i + j + n = i + n + j by omega, ih]
        · rw [show i + j + 1 = i + 1 + j by omega, ih]

theorem sl_shift (delim : UInt8) (s acc : Bytes) (j : Nat) :
    sl delim s acc j = shiftStr j (sl delim s acc 0) := by
  have := strLoop_shift delim (s.length + 1) s acc 0 j
  simpa [sl] using this

theorem isPrefixOf_chunk (pat : Bytes) (hp : 10 ∉ pat) (s rest : Bytes) (hs : Ends 10 s) (hne : s ≠ []) :
    pat.isPrefixOf (s ++ rest) = pat.isPrefixOf s := by
  rcases hs with rfl | ⟨a, rfl⟩
  · exact absurd rfl hne
  · rw [List.append_assoc, List.singleton_append]; exact pref_local pat hp a rest

theorem findSub_chunk (pat : Bytes) (hp : 10 ∉ pat) (hne : pat ≠ []) (s rest : Bytes) (i : Nat)
    (hs : Ends 10 s) :
    findSub pat (s ++ rest) i =
      match findSub pat s i with
      | some k => some k
      | none => findSub pat rest (i + s.length) := by
  induction s generalizing i with
  | nil =>
    have : pat.isEmpty = false := by simpa using hne
    simp [findSub, this]
  | cons c s' ih =>
    rw [List.cons_append, findSub, findSub, ← List.cons_append, isPrefixOf_chunk pat hp (c :: s') rest hs (by simp)]
    split
    · rfl
    · rw [ih _ hs.tail]
      simp only [List.length_cons]
      rw [show i + 1 + s'.length = i + (s'.length + 1) by omega]

def NoLFDelim : Mode → Prop
  | .inLong delim _ _ _ => 10 ∉ delim
  | _ => True

theorem eqRun_head_local (a rest : Bytes) :
    ((a ++ 10 :: rest).drop (spanLen (· == 61) (a ++ 10 :: rest))).head? =
      ((a ++ [10]).drop (spanLen (· == 61) (a ++ [10]))).head? := by
  rw [spanLen_lf _ (by decide), spanLen_lf _ (by decide), drop_span_app, drop_span_app]
  cases a.drop (spanLen (· == 61) a) <;> rfl

theorem start_local (a rest : Bytes) : start (a ++ 10 :: rest) = start (a ++ [10]) := by
  unfold start
  rw [pref_local _ (by decide) a rest]
  cases a with
  | nil => rfl
  | cons c a' =>
    simp only [List.cons_append]
    rw [eqRun_head_local a' rest, spanLen_lf (· == 61) (by decide) a' rest, spanLen_lf' (· == 61) (by decide) a']

theorem processToken_normal_chunk (st : LexSt) (a rest : Bytes) (hm : st.mode = .normal) :
    processToken Gen.matcherShape st (a ++ [10] ++ rest) = processToken Gen.matcherShape st (a ++ [10]) ∧
      ∀ st' i, processToken Gen.matcherShape st (a ++ [10]) = .ok (st', i) → i ≤ (a ++ [10]).length := by
  have hlen := start_len_le (a ++ [10])
  rw [List.append_assoc, List.singleton_append, processToken_normal _ st _ hm (by simp),
    processToken_normal _ st _ hm (by simp), start_local, matchOne_local a rest]
  have htake : ∀ n, n ≤ (a ++ [10]).length → (a ++ 10 :: rest).take n = (a ++ [10]).take n := fun n hn => by
    rw [show a ++ 10 :: rest = (a ++ [10]) ++ rest by simp]; exact List.take_append_of_le_length hn
  cases hst : start (a ++ [10]) with
  | longComment => rw [hst] at hlen; exact ⟨by simp only [htake 4 hlen], fun _ _ h => by cases h; exact hlen⟩
  | longString n => rw [hst] at hlen; exact ⟨by simp only [htake (n + 2) hlen], fun _ _ h => by cases h; exact hlen⟩
  | quote q => rw [hst] at hlen; exact ⟨by simp only [htake 1 hlen], fun _ _ h => by cases h; exact hlen⟩
  | plain =>
    cases hmm : matchOne Gen.matcherShape (a ++ [10]) with
    | none => exact ⟨rfl, fun _ _ h => by cases h; omega⟩
    | some kn =>
      have hb := matchOne_bounded _ _ hmm
      exact ⟨by simp only [htake _ hb], fun _ _ h => by cases h; exact hb⟩

def shiftScan (j : Nat) : Except Err ((Tok × Nat) ⊕ Mode) → Except Err ((Tok × Nat) ⊕ Mode)
  | .ok (.inl (t, i)) => .ok (.inl (t, j + i))
  | x => x

theorem scan_noLFDelim {m m' : Mode} {s : Bytes} (h : scan m s = .ok (.inr m')) (hg : NoLFDelim m) : NoLFDelim m' := by
  cases m with
  | inLong d l c acc =>
    simp only [scan] at h
    cases hf : findSub ([93] ++ d ++ [93]) s 0 <;> rw [hf] at h <;> cases h
    exact hg
  | normal => cases h; trivial
  | inStr q l c acc =>
    simp only [scan] at h
    split at h <;> cases h
    trivial
  | inComment l c acc =>
    simp only [scan] at h
    split at h <;> cases h
    trivial

theorem scan_chunk (m : Mode) (hg : NoLFDelim m) (s rest : Bytes) (hs : Ends 10 s) :
    scan m (s ++ rest) =
      match scan m s with
      | .ok (.inr m') => shiftScan s.length (scan m' rest)
      | x => x := by
  cases m with
  | normal => rfl
  | inStr q l c acc =>
    simp only [scan, sl_chunk q 10 (by decide) (by decide) (by decide) (by decide) s rest acc 0 hs]
    cases hsl : sl q s acc 0 with
    | error e => rfl
    | ok r =>
      obtain ⟨b, acc', i⟩ := r
      cases b with
      | true => rfl
      | false =>
        have := (sl_end hsl).1 rfl
        simp only [Nat.zero_add] at this; subst this
        simp only [contStr, sl_shift q rest acc' s.length]
        cases sl q rest acc' 0 with
        | error e => rfl
        | ok r2 => obtain ⟨b2, acc2, i2⟩ := r2; cases b2 <;> simp [shiftStr, shiftScan, Nat.add_comm]
  | inComment l c acc =>
    simp only [scan, findSub_chunk [93, 93] (by decide) (by simp) s rest 0 hs]
    cases hf : findSub [93, 93] s 0 with
    | some k =>
      have := (findSub_spec hf).2.1
      simp only [Nat.sub_zero, List.length_cons, List.length_nil] at this
      simp only [List.take_append_of_le_length this]
    | none =>
      rw [findSub_shift _ rest 0 s.length]
      dsimp only
      cases findSub [93, 93] rest 0 with
      | none => simp [shiftScan]
      | some k2 => simp [shiftScan, show k2 + s.length + 2 = s.length + (k2 + 2) by omega, List.take_length_add_append]
  | inLong d l c acc =>
    have hpat : 10 ∉ [93] ++ d ++ [93] := by
      simp only [List.mem_append, List.mem_singleton, not_or]
      exact ⟨⟨by decide, hg⟩, by decide⟩
    simp only [scan, findSub_chunk _ hpat (by simp) s rest 0 hs]
    cases hf : findSub ([93] ++ d ++ [93]) s 0 with
    | some k =>
      have := (findSub_spec hf).2.1
      simp only [Nat.sub_zero, List.length_cons, List.length_nil, List.length_append] at this
      simp only [List.take_append_of_le_length (show k ≤ s.length by omega)]
    | none =>
      rw [findSub_shift _ rest 0 s.length]
      dsimp only
      cases findSub ([93] ++ d ++ [93]) rest 0 with
      | none => simp [shiftScan]
      | some k2 => simp [shiftScan, Nat.add_comm k2 s.length, List.take_length_add_append, Nat.add_assoc]

theorem processToken_noLFDelim (st : LexSt) (s : Bytes) (hg : NoLFDelim st.mode) (st' : LexSt) (i : Nat)
    (h : processToken Gen.matcherShape st s = .ok (st', i)) : NoLFDelim st'.mode := by
  by_cases hs : s = []
  · rw [hs, processToken_nil] at h; cases h; exact hg
  by_cases hm : st.mode = .normal
  · rw [processToken_normal _ st s hm hs] at h
    split at h
    · cases h; rw [advance_eq]; trivial
    · cases h; rw [advance_eq]; simp [NoLFDelim]
    · cases h; rw [advance_eq]; trivial
    · split at h <;> cases h
      · rw [advance_eq]; exact hg
      · exact hg
  · rw [processToken_scan _ st s hm] at h
    cases hsc : scan st.mode s with
    | error e => rw [hsc] at h; cases h
    | ok r =>
      rw [hsc] at h
      cases r with
      | inl ti => obtain ⟨t, j⟩ := ti; cases h; rw [advance_eq]; trivial
      | inr m' => cases h; rw [advance_eq]; exact scan_noLFDelim hsc hg

def thenLine (rest : Bytes) : Except Err LexSt → Except Err LexSt
  | .error e => .error e
  | .ok st' => pl Gen.matcherShape st' rest

theorem thenLine_nil (x : Except Err LexSt) : thenLine [] x = x := by
  cases x with
  | error e => rfl
  | ok st => exact pl_nil _ st

theorem pl_split (st : LexSt) (s rest : Bytes) (hs : Ends 10 s) (hg : NoLFDelim st.mode) :
    pl Gen.matcherShape st (s ++ rest) = thenLine rest (pl Gen.matcherShape st s) := by
  induction hn : s.length using Nat.strongRecOn generalizing s st with
  | _ n ih =>
    subst hn
    by_cases hrest : rest = []
    · subst hrest; rw [List.append_nil, thenLine_nil]
    rcases hs with rfl | ⟨a, rfl⟩
    · rw [pl_nil]; rfl
    have hlf : Ends 10 (a ++ [10]) := Or.inr ⟨a, rfl⟩
    by_cases hm : st.mode = .normal
    · obtain ⟨heq, hb⟩ := processToken_normal_chunk st a rest hm
      rw [pl_step _ _ (_ ++ rest), heq, pl_step _ _ (a ++ [10])]
      cases hp : processToken Gen.matcherShape st (a ++ [10]) with
      | error e => rfl
      | ok si =>
        obtain ⟨st', i⟩ := si
        by_cases h0 : i = 0
        · simp [h0, thenLine]
        · simp only [h0, if_false]
          rw [List.drop_append_of_le_length (hb st' i hp)]
          exact ih _ (processToken_drop_lt hp h0) _ _ (hlf.drop i) (processToken_noLFDelim _ _ hg _ _ hp) rfl
    · -- a multi-line construct: it closes inside the line, or the scan goes on in `rest`
      rw [pl_scan _ st _ hm (by simp), pl_scan _ st _ hm (by simp), scan_chunk st.mode hg _ rest hlf]
      cases hsc : scan st.mode (a ++ [10]) with
      | error e => rfl
      | ok r =>
        cases r with
        | inl ti =>
          obtain ⟨t, i⟩ := ti
          obtain ⟨hi1, hi2⟩ := scan_closed hsc
          simp only [List.take_append_of_le_length hi2, List.drop_append_of_le_length hi2]
          exact ih _ (by simp only [List.length_drop]; omega) _ _ (hlf.drop i) (by rw [advance_eq]; trivial) rfl
        | inr m' =>
          have hmode : (advance { st with mode := m' } (a ++ [10])).mode = m' := by rw [advance_eq]
          simp only [thenLine]
          rw [pl_scan _ _ rest (by rw [hmode]; exact scan_open hsc hm) hrest, hmode]
          cases scan m' rest with
          | error e => rfl
          | ok r2 =>
            cases r2 with
            | inl ti =>
              obtain ⟨t, i⟩ := ti
              simp only [shiftScan, List.take_length_add_append, List.drop_length_add_append, advance_eq, posAfter_append]
            | inr m2 => simp only [shiftScan, advance_eq, posAfter_append]

theorem pl_noLFDelim (s : Bytes) (st st' : LexSt) (hg : NoLFDelim st.mode) (h : pl Gen.matcherShape st s = .ok st') :
    NoLFDelim st'.mode := by
  induction hn : s.length using Nat.strongRecOn generalizing s st with
  | _ n ih =>
    subst hn
    rw [pl_step] at h
    cases hp : processToken Gen.matcherShape st s with
    | error e => rw [hp] at h; cases h
    | ok si =>
      obtain ⟨st1, i⟩ := si
      rw [hp] at h
      have hg1 := processToken_noLFDelim _ _ hg _ _ hp
      by_cases h0 : i = 0
      · simp only [h0, if_true] at h
        split at h <;> cases h
        exact hg1
      · simp only [h0, if_false] at h
        exact ih _ (processToken_drop_lt hp h0) _ _ hg1 h rfl

theorem processLinesFrom_cons (st : LexSt) (l : Bytes) (ls : List Bytes) :
    processLinesFrom Gen.matcherShape st (l :: ls) =
      match pl Gen.matcherShape st l with
      | .error e => .error e
      | .ok st' => processLinesFrom Gen.matcherShape st' ls := by
  rw [processLinesFrom, processLine_fuel _ _ _ _ (by omega)]
  rfl

theorem processLinesFrom_single (st : LexSt) (src : Bytes) :
    processLinesFrom Gen.matcherShape st [src] = pl Gen.matcherShape st src := by
  rw [processLinesFrom_cons]
  cases pl Gen.matcherShape st src <;> rfl

/-- reading the lines one by one is reading the text in one piece; `cur` is the part of the current line already
split off -/
theorem lines_eq_chunk (s : Bytes) : ∀ (cur : Bytes) (st : LexSt), NoLFDelim st.mode →
    processLinesFrom Gen.matcherShape st (splitLinesAux (· == 10) s cur) =
      pl Gen.matcherShape st (cur.reverse ++ s) := by
  induction s with
  | nil =>
    intro cur st _
    cases cur with
    | nil => exact (pl_nil _ st).symm
    | cons c cur => rw [List.append_nil]; exact processLinesFrom_single st _
  | cons x xs ih =>
    intro cur st hg
    rw [splitLinesAux]
    by_cases hx : x = 10
    · subst hx
      rw [if_pos (by rfl), processLinesFrom_cons, List.reverse_cons,
        show cur.reverse ++ 10 :: xs = (cur.reverse ++ [10]) ++ xs by simp, pl_split st _ xs (Or.inr ⟨_, rfl⟩) hg]
      cases hp : pl Gen.matcherShape st (cur.reverse ++ [10]) with
      | error e => rfl
      | ok st' => exact ih [] st' (pl_noLFDelim _ _ _ hg hp)
    · rw [if_neg (by simpa using hx), ih (x :: cur) st hg, List.reverse_cons, List.append_assoc]; rfl

/-! `orK` and its two equations: nothing in the development uses them. -/

def orK (k : Kind) (o : Option Nat) (rest : Option (Kind × Nat)) : Option (Kind × Nat) :=
  match o with | some n => some (k, n) | none => rest

@[simp] theorem orK_some (k n rest) : orK k (some n) rest = some (k, n) := rfl
@[simp] theorem orK_none (k rest) : orK k none rest = rest := rfl

end Pico.C07L
