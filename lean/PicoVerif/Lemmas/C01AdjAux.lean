import PicoVerif.Lemmas.PegAdj
import PicoVerif.Lemmas.C01Min
import PicoVerif.Lemmas.PegCover
/-! Helper lemmas for `Lemmas/C01Adj.lean`: significant tokens of a whole token list, the bytes of a numeral, and the
fusable test between symbols and numerals. -/
namespace Pico.C01A
open Pico.Peg Pico.Lex Pico.Adj Pico.C01L Pico.Wr Pico.LexL
open Pico.C01 (sigToks)

theorem toksAt_all (toks : List Tok) :
    toksAt toks.toArray (sigIdx toks.toArray 0 toks.toArray.size) = sigToks toks := by
  unfold sigToks
  induction toks with
  | nil => rfl
  | cons t r ih =>
    -- the positions of `t :: r` are 0 and those of `r` moved up by one
    have h0 : sig (t :: r).toArray 0 = !t.trivia := by simp [sig]
    have hs : sig (t :: r).toArray ∘ (· + 1) = sig r.toArray := by funext i; simp [sig]
    simp only [toksAt, sigIdx, List.size_toArray, Nat.sub_zero] at ih
    simp only [toksAt, sigIdx, List.size_toArray, List.length_cons, Nat.sub_zero, List.range'_succ, List.filter_cons, h0,
      Nat.zero_add, List.range'_succ_left (s := 0), List.filter_map, hs]
    cases t.trivia <;> simp [← ih, Function.comp_def]

theorem num_bytes (n : Bytes) (hn : NumOK n) : ∀ b ∈ n, numCh b = true := by
  obtain ⟨-, r, hm⟩ := hn
  obtain ⟨m, hmem, h⟩ := num_of_matchOne hm
  exact spanLen_append_ge numCh n r ((numMatchers_num m hmem).le _ _ h)

theorem num_prefix_wordLike (n m : Bytes) (hn : NumOK n) : wordLikeL (n ++ m) = true := by
  obtain ⟨h, t, rfl, hh⟩ := numOK_head n hn
  rcases hh with hh | ⟨rfl, d, t', rfl, hd⟩
  · simp [wordLikeL, digit_identChar h hh]
  · simp [wordLikeL, hd]

theorem num_last_ne (n : Bytes) (hn : NumOK n) (c : UInt8) (hc : numCh c = false) : (n.getLast? == some c) = false := by
  cases hl : n.getLast? with
  | none => rfl
  | some l =>
    obtain ⟨ys, rfl⟩ := List.getLast?_eq_some_iff.mp hl
    have hl' := num_bytes _ hn l (by simp)
    have : l ≠ c := by rintro rfl; rw [hl'] at hc; cases hc
    simp [this]

/-- a numeral never fuses with what follows: no symbol begins with a numeral, and a numeral ends in none of the bytes
that fuse with a symbol's first byte -/
theorem num_safe (n d : Bytes) (hn : NumOK n) : fusable n d = false := by
  have h1 := longest_beyond Spec.Lex.symbolSet n d fun c m hl _ => by
    have := List.all_eq_true.mp symLits_not_wordLike _ hl
    simp [num_prefix_wordLike n (c :: m) hn] at this
  obtain ⟨h, t, rfl, hh⟩ := numOK_head n hn
  have f47 := (digit_or_dot_facts h (hh.imp id And.left)).2.1
  have h2 : ((h :: t) == [46]) = false := by
    rcases hh with hd | ⟨rfl, d, t', rfl, -⟩
    · exact beq_eq_false_iff_ne.mpr fun e => by cases e; exact absurd hd (by decide)
    · rfl
  have h3 : [47, 47].isPrefixOf (h :: t ++ d) = false := by
    simp [List.isPrefixOf, Ne.symm f47]
  have h4 := num_last_ne _ hn 58 (by decide)
  have h5 := num_last_ne _ hn 91 (by decide)
  unfold fusable
  rw [h1, h2, h3, h4, h5]
  simp

/-- what a symbol must satisfy for never fusing with a numeral written after it -/
def symNumOK (d : Bytes) : Bool :=
  d != [46] && symLits.all fun l => !(d.isPrefixOf l) ||
    (match (l.drop d.length).head? with
     | none => true
     | some c => !isDigit c && (c != 46 || d.getLast? == some 46))

theorem sym_num_safe (d n : Bytes) (hd : d ∈ symLits) (hn : NumOK n) (hok : symNumOK d = true) :
    fusable d n = false := by
  obtain ⟨h, t, rfl, hh⟩ := numOK_head n hn
  have hh' : isDigit h = true ∨ h = 46 := hh.imp id And.left
  obtain ⟨-, f47, -, -, -, -, -, -, -, f58, f61⟩ := digit_or_dot_facts h hh'
  simp only [symNumOK, Bool.and_eq_true, bne_iff_ne, ne_eq, List.all_eq_true] at hok
  obtain ⟨hne, hall⟩ := hok
  rw [fusable_sym d h t hd]
  cases hns : needsSpace d (h :: t) with
  | true => rfl
  | false =>
    -- no symbol is `d` and then a digit; one that is `d` and then `.` has `d` end in `.`, and `needsSpace` sees that
    have hmem : d ++ [h] ∉ symLits := fun hl => by
      have := hall _ hl
      simp only [List.drop_left, List.head?_cons, Bool.or_eq_true, Bool.not_eq_true', Bool.and_eq_true,
        bne_iff_ne, ne_eq, beq_iff_eq] at this
      rcases this with hnp | ⟨hnd, h46⟩
      · rw [List.isPrefixOf_iff_prefix.mpr (List.prefix_append _ _)] at hnp; cases hnp
      · rcases hh' with hdg | rfl
        · rw [hdg] at hnd; cases hnd
        · rcases h46 with h46 | h46
          · exact h46 rfl
          · rw [(needsSpace_covers d (46 :: t)).2.2.1 ⟨h46, rfl⟩] at hns; cases hns
    simp [fusB, hmem, hne, f47, f58, f61]

def patSym : Pat → Option Bytes
  | .exact k d => if k == .symbol then some d else none
  | .kind _ => none

def patNum : Pat → Bool
  | .kind k => k == .number
  | .exact _ _ => false

/-- the pattern only matches tokens that are neither symbols nor numbers -/
def patOther : Pat → Bool
  | .kind k => k != .symbol && k != .number
  | .exact k _ => k != .symbol && k != .number

/-- a pair of patterns whose tokens never fuse when they are a symbol/number each: `true` when one of them matches no
symbol or number; two literal symbols: not `fusable`; a literal symbol before any number: `symNumOK`; any number before
a literal symbol or a number: always; anything else (`kind symbol`, `exact number _`): `false` -/
def pairSafe (p q : Pat) : Bool :=
  patOther p || patOther q ||
  (match patSym p, patSym q with
   | some d, some d' => !fusable d d'
   | some d, none => patNum q && symNumOK d
   | none, some _ => patNum p
   | none, none => patNum p && patNum q)

theorem pat_cases (p : Pat) (a : Tok) (hm : p.matches a = true) (hs : a.kind = .symbol ∨ a.kind = .number) :
    patOther p = false ∧
      ((a.kind = .symbol ∧ (patSym p = some a.data ∨ (patSym p = none ∧ patNum p = false))) ∨
       (a.kind = .number ∧ patSym p = none)) := by
  cases p with
  | kind k =>
    simp only [Pat.matches, beq_iff_eq] at hm
    subst hm
    rcases hs with hs | hs <;> simp [patOther, patSym, patNum, hs]
  | exact k d =>
    simp only [Pat.matches, Bool.and_eq_true, beq_iff_eq] at hm
    obtain ⟨rfl, rfl⟩ := hm
    rcases hs with hs | hs <;> simp [patOther, patSym, patNum, hs]

theorem pairSafe_sound (p q : Pat) (a b : Tok) (hpa : p.matches a = true) (hqb : q.matches b = true)
    (hsa : a.kind = .symbol ∨ a.kind = .number) (hsb : b.kind = .symbol ∨ b.kind = .number)
    (hwa : WF a) (hwb : WF b) (h : pairSafe p q = true) : fusable a.data b.data = false := by
  obtain ⟨hpo, hpc⟩ := pat_cases p a hpa hsa
  obtain ⟨hqo, hqc⟩ := pat_cases q b hqb hsb
  simp only [pairSafe, hpo, hqo, Bool.false_or] at h
  rcases hpc with ⟨hka, hp1 | ⟨hp1, hp2⟩⟩ | ⟨hka, hp1⟩ <;>
  rcases hqc with ⟨-, hq1 | ⟨hq1, hq2⟩⟩ | ⟨hkb, hq1⟩ <;>
  simp only [hp1, hq1] at h
  · simpa using h
  · simp [hq2] at h
  · simp only [Bool.and_eq_true] at h
    exact sym_num_safe _ _ (hwa.symbol hka) (hwb.number hkb) h.2
  · simp [hp2] at h
  · simp [hp2] at h
  · simp [hp2] at h
  · exact num_safe _ _ (hwa.number hka)
  · simp [hq2] at h
  · exact num_safe _ _ (hwa.number hka)

/-- every pair of the adjacency mask lies inside the table and is `pairSafe` -/
def tableOK (cls : List Pat) (adj : Nat) : Bool :=
  (List.range (cls.length + 1)).all fun i => (List.range (cls.length + 1)).all fun j =>
    !adj.testBit (i * (cls.length + 1) + j) ||
      (match cls[i]?, cls[j]? with
       | some p, some q => pairSafe p q
       | _, _ => false)

theorem tableOK_sound (cls : List Pat) (adj : Nat) (p q : Pat) (h : tableOK cls adj = true)
    (hbit : adj.testBit (idx cls p * (cls.length + 1) + idx cls q) = true) : pairSafe p q = true := by
  simp only [tableOK, List.all_eq_true, List.mem_range] at h
  have := h _ (Nat.lt_succ_of_le (idx_le cls p)) _ (Nat.lt_succ_of_le (idx_le cls q))
  rw [hbit] at this
  split at this
  · rename_i p' q' hp hq
    rw [← idx_get cls p p' hp, ← idx_get cls q q' hq]
    exact this
  · cases this

end Pico.C01A
