import PicoVerif.Lemmas.NormRun
/-! Measures of byte strings that no stage of the formatter's pipeline `normRun` changes. -/
namespace Pico.Ast
open Pico.Lex

/-- A measure `φ` of byte strings into a monoid (`op`, with `φ []` as unit) that does not see spaces and takes a run
of line feeds for one.  Every stage of the formatter's pipeline after the break normalisation leaves such a measure
unchanged (`Blind.normRun_tail`).  Instances: the non-white-space bytes and "contains a line feed" (Lemmas/C09), the tabs
and carriage returns (Lemmas/C10). -/
structure Blind {M : Type} (φ : Bytes → M) (op : M → M → M) : Prop where
  app : ∀ a b, φ (a ++ b) = op (φ a) (φ b)
  assoc : ∀ x y z, op (op x y) z = op x (op y z)
  nil_op : ∀ x, op (φ []) x = x
  sp : φ [32] = φ []
  lf2 : op (φ [10]) (φ [10]) = φ [10]

namespace Blind
variable {M : Type} {φ : Bytes → M} {op : M → M → M} (B : Blind φ op)
include B

theorem cons (b : UInt8) (s : Bytes) : φ (b :: s) = op (φ [b]) (φ s) := B.app [b] s

theorem cons_congr (b : UInt8) {s t : Bytes} (h : φ s = φ t) : φ (b :: s) = φ (b :: t) := by
  rw [B.cons, B.cons b t, h]

theorem rep : ∀ n : Nat, φ (List.replicate n 32) = φ []
  | 0 => rfl
  | n + 1 => by rw [List.replicate_succ, B.cons, B.sp, B.nil_op, rep n]

theorem rep_app (n : Nat) (s : Bytes) : φ (List.replicate n 32 ++ s) = φ s := by
  rw [B.app, B.rep, B.nil_op]

/-- a run of spaces and line feeds counts as one line feed, or as nothing -/
theorem sp_lf : ∀ t : Bytes, Blank t → φ t = φ (if t.contains 10 then [10] else [])
  | [], _ => rfl
  | b :: t, h => by
    have ih := sp_lf t fun c hc => h c (List.mem_cons_of_mem _ hc)
    rcases h b List.mem_cons_self with rfl | rfl
    · rw [B.cons, B.sp, B.nil_op, ih, List.contains_cons, show ((10 : UInt8) == 32) = false from rfl, Bool.false_or]
    · rw [B.cons, ih, List.contains_cons, show ((10 : UInt8) == 10) = true from rfl, Bool.true_or, if_pos rfl]
      split
      · exact B.lf2
      · exact (B.cons 10 []).symm

theorem dropSpacesBeforeLF (s : Bytes) : φ (dropSpacesBeforeLF s) = φ s := by
  induction s using dsl_induction with
  | sp n => rw [dsl_sp]
  | lf n z ih => rw [dsl_sp_lf, B.rep_app]; exact B.cons_congr 10 ih
  | other n c z hc h10 ih => rw [dsl_sp_cons n c z h10 hc, B.rep_app, B.rep_app]; exact B.cons_congr c ih

theorem reindent (k : Bytes → Option Nat) (s : Bytes) : φ (reindent k s) = φ s := by
  rcases reindent_cases k s with ⟨_, e⟩ | ⟨n, c, r, j, _, _, rfl, e⟩
  · rw [e]
  · rw [e, B.rep_app, B.rep_app]

theorem subLineComment (m : Nat) (s : Bytes) : φ (subLineComment (List.replicate m 32) s) = φ s := by
  induction s using slc_induction with
  | nil => rw [Ast.subLineComment]
  | other b r hb ih => rw [slc_cons_ne _ b r hb]; exact B.cons_congr b ih
  | comment n c r hc ih =>
    rw [slc_lf_comment _ n c r hc]
    exact B.cons_congr 10 (by rw [B.rep_app, B.rep_app]; exact B.cons_congr c (B.cons_congr c ih))
  | lf r h ih => rw [slc_lf_none _ r h]; exact B.cons_congr 10 ih

theorem tailEdit {s s' : Bytes} (h : TailEdit s s') : φ s' = φ s := by
  obtain ⟨pre, t, t', rfl, rfl, ht, ht', hc, _⟩ := h
  rw [B.app, B.app, B.sp_lf t ht, B.sp_lf t' ht', hc]

theorem collapseLF (s : Bytes) : φ (collapseLF s) = φ s := by
  fun_induction Ast.collapseLF s with
  | case1 rest ih => rw [ih, B.cons 10 (10 :: 10 :: rest), B.cons 10 (10 :: rest), ← B.assoc, B.lf2, ← B.cons]
  | case2 b rest _ ih => exact B.cons_congr b ih
  | case3 => rfl

theorem normRun_tail (w d : Nat) (st e : Bool) (r : Bytes) :
    φ (normRun w d st e r) = φ (normBreaks r) := by
  unfold normRun
  simp only
  rw [B.tailEdit (tailEdit_ite _ tailEdit_subTrailing _), B.collapseLF,
    B.tailEdit (tailEdit_ite _ tailEdit_subAllSpaces _), B.tailEdit (tailEdit_subFinalIndent _ _),
    apply_ite φ, subStartAnyComment_eq, B.reindent, ite_self, B.subLineComment,
    apply_ite φ, show subStartComment [32, 32, 45, 45] _ = _ from subStartComment_eq 2 _, B.reindent, ite_self, B.dropSpacesBeforeLF]
  rfl

end Blind

/-- ... and takes a tab for a space and a carriage return for a line feed: unchanged by the break normalisation too -/
structure BlindBrk {M : Type} (φ : Bytes → M) (op : M → M → M) : Prop extends Blind φ op where
  tab : φ [9] = φ [32]
  cr : φ [13] = φ [10]

namespace BlindBrk
variable {M : Type} {φ : Bytes → M} {op : M → M → M} (B : BlindBrk φ op)
include B

theorem map_ite (x y : UInt8) (hxy : φ [x] = φ [y]) (s : Bytes) : φ (s.map fun b => if b = x then y else b) = φ s := by
  induction s with
  | nil => rfl
  | cons b s ih =>
    rw [List.map_cons, B.cons, B.cons b, ih]
    split
    · rename_i h; rw [h, hxy]
    · rfl

theorem subTab (s : Bytes) : φ (subTab s) = φ s := B.map_ite 9 32 B.tab s

theorem subCR (s : Bytes) : φ (subCR s) = φ s := B.map_ite 13 10 B.cr s

theorem subCRLF (s : Bytes) : φ (subCRLF s) = φ s := by
  fun_induction Ast.subCRLF s with
  | case1 rest ih => rw [B.cons 13, B.cons 10 rest, ← B.assoc, B.cr, B.lf2, ← B.cons, B.cons_congr 10 ih]
  | case2 b rest _ ih => exact B.cons_congr b ih
  | case3 => rfl

theorem subLFCR (s : Bytes) : φ (subLFCR s) = φ s := by
  fun_induction Ast.subLFCR s with
  | case1 rest ih => rw [B.cons 10 (13 :: rest), B.cons 13 rest, ← B.assoc, B.cr, B.lf2, ← B.cons, B.cons_congr 10 ih]
  | case2 b rest _ ih => exact B.cons_congr b ih
  | case3 => rfl

theorem normRun (w d : Nat) (st e : Bool) (r : Bytes) : φ (normRun w d st e r) = φ r := by
  rw [B.normRun_tail, normBreaks, B.subCR, B.subLFCR, B.subCRLF, B.subTab]

end BlindBrk

end Pico.Ast
