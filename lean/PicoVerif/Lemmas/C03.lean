import PicoVerif.Lemmas.Sections
import PicoVerif.Model.P8File
import PicoVerif.Props.C15
/-! File-level lemmas for C03: the written `.p8` file is a list of LF-terminated lines, the reader's line
splitter recovers them, the section scanner files them under their headers, and the section decoders
(`Lemmas/Sections`) give back the cart. -/
namespace Pico.C03L
open Pico.Sections Pico.P8File Pico.P8scii

/-- LF and printable ASCII are spelled by themselves, and LF occurs in no other spelling -/
def asciiRow (i : Nat) (s : List Nat) : Bool :=
  (!(i == 10 || (32 ≤ i && i < 127)) || s == [i]) && (i == 10 || !s.contains 10)

theorem ascii_rows (i : Nat) (hi : i < 256) : asciiRow i (spelling C15.tbl i) = true :=
  C15.decodable.spelling_all asciiRow (by decide +kernel) (C15.table_256 ▸ hi)

def printable (x : UInt8) : Bool := 32 ≤ x && x < 127

theorem printable_iff (x : UInt8) : printable x = true ↔ 32 ≤ x.toNat ∧ x.toNat < 127 := by
  simp [printable, UInt8.le_iff_toNat_le, UInt8.lt_iff_toNat_lt]

def isLF8 : UInt8 → Bool := (· == 10)
def isLFU : Nat → Bool := (· == 10)

theorem spelling_byte (x : UInt8) :
    (x = 10 ∨ printable x = true → spelling C15.tbl x.toNat = [x.toNat]) ∧
    (isLF8 x = false → ∀ y ∈ spelling C15.tbl x.toNat, isLFU y = false) := by
  have := ascii_rows x.toNat x.toNat_lt
  simp [asciiRow, printable, isLF8, isLFU, UInt8.le_iff_toNat_le, UInt8.lt_iff_toNat_lt, ← UInt8.toNat_inj] at this ⊢
  exact ⟨fun h => this.1.resolve_left (by omega), fun h y hy e => this.2.resolve_left h (e ▸ hy)⟩

theorem toUnicode_ascii (b : Bytes) (h : ∀ x ∈ b, x = 10 ∨ printable x = true) : toUnicode C15.tbl b = asciiU b := by
  rw [toUnicode, List.flatMap_def, List.map_congr_left fun x hx => (spelling_byte x).1 (h x hx)]
  exact List.map_eq_flatMap.symm

theorem toUnicode_lf : toUnicode C15.tbl [10] = [10] := toUnicode_ascii [10] (by simp)

theorem toUnicode_line (b : Bytes) (h : IsLine isLF8 b) : IsLine isLFU (toUnicode C15.tbl b) := by
  obtain ⟨a, x, rfl, ha, hx⟩ := h
  obtain rfl : x = 10 := by simpa [isLF8] using hx
  refine ⟨toUnicode C15.tbl a, 10, by rw [toUnicode_append, toUnicode_lf], ?_, rfl⟩
  simp only [toUnicode, List.forall_mem_flatMap]
  exact fun z hz => (spelling_byte z).2 (ha z hz)

/-- printable ASCII followed by LF -/
def TextLine (b : Bytes) : Prop := ∃ a, b = a ++ [10] ∧ ∀ x ∈ a, printable x = true

theorem TextLine.isLine {b : Bytes} (h : TextLine b) : IsLine isLF8 b := by
  obtain ⟨a, rfl, ha⟩ := h
  refine ⟨a, 10, rfl, fun x hx => ?_, rfl⟩
  simp only [isLF8, beq_eq_false_iff_ne]
  rintro rfl
  exact absurd (ha 10 hx) (by decide)

theorem TextLine.toU {b : Bytes} (h : TextLine b) : toUnicode C15.tbl b = asciiU b := by
  obtain ⟨a, rfl, ha⟩ := h
  exact toUnicode_ascii _ fun x hx => (List.mem_append.mp hx).elim (fun hx => .inr (ha x hx))
    (fun hx => .inl (List.mem_singleton.mp hx))

theorem toUnicode_textLines (ls : List Bytes) (h : ∀ b ∈ ls, TextLine b) :
    toUnicode C15.tbl ls.flatten = asciiU ls.flatten := by
  rw [toUnicode_flatten, asciiU, List.map_flatten, List.map_congr_left fun b hb => (h b hb).toU]
  rfl

theorem sectionName_head (l : List Nat) (h : l.head? ≠ some 95) : sectionName l = none := by
  rw [sectionName, if_neg]
  rintro ⟨_, ht, _⟩
  match l, ht with
  | x :: y :: r, ht => exact h (congrArg some (List.cons.inj ht).1)

/-- hex digits and spaces followed by LF -/
def DataLine (b : Bytes) : Prop := ∃ a, b = a ++ [10] ∧ ∀ x ∈ a, (isHexChar x || x == 32) = true

theorem data_char {x : UInt8} (h : (isHexChar x || x == 32) = true) : printable x = true ∧ x ≠ 95 := by
  rw [Bool.or_eq_true, isHexChar_iff, beq_iff_eq, ← UInt8.toNat_inj] at h
  rw [printable_iff, Ne, ← UInt8.toNat_inj]
  have : (32 : UInt8).toNat = 32 ∧ (95 : UInt8).toNat = 95 := ⟨rfl, rfl⟩
  omega

theorem DataLine.text {b : Bytes} (h : DataLine b) : TextLine b := by
  obtain ⟨a, rfl, ha⟩ := h
  exact ⟨a, rfl, fun x hx => (data_char (ha x hx)).1⟩

theorem DataLine.nosec {b : Bytes} (h : DataLine b) : sectionName (toUnicode C15.tbl b) = none := by
  rw [h.text.toU]
  obtain ⟨a, rfl, ha⟩ := h
  apply sectionName_head
  cases a with
  | nil => decide
  | cons z zs => simpa [asciiU, ← UInt8.toNat_inj] using (data_char (ha z List.mem_cons_self)).2

/-! ### the encoders produce data lines -/

theorem hexLine_data (a : Bytes) (h : ∀ x ∈ a, isHexChar x = true) : DataLine (a ++ [LF]) :=
  ⟨a, rfl, fun x hx => by simp [h x hx]⟩

/-- rows written as hex text: `Gfx.to_lines` and `BaseSection.to_lines` -/
theorem hexRows_data (rows : List Bytes) (g : Bytes → Bytes) :
    ∀ b ∈ rows.map (fun row => toHex (g row) ++ [LF]), DataLine b :=
  List.forall_mem_map.mpr fun _ _ => hexLine_data _ (toHex_isHexChar _)

theorem notesText_hex (l : Bytes) : ∀ x ∈ notesText l, isHexChar x = true := by
  fun_induction notesText l with
  | case1 lsb msb rest ih =>
    simp only [noteText, getNote, List.forall_mem_append, List.forall_mem_singleton]
    exact ⟨⟨toHex_isHexChar _, hexDigit_isHexChar _ (Nat.mod_lt _ (by omega))⟩, ih⟩
  | case2 _ _ => nofun

theorem sfxLines_data (m : Bytes) : ∀ b ∈ (chunks 68 m).map sfxPatternLine, DataLine b :=
  List.forall_mem_map.mpr fun _ _ =>
    hexLine_data _ (List.forall_mem_append.mpr ⟨toHex_isHexChar _, notesText_hex _⟩)

theorem musicEnc_data (c1 c2 c3 c4 : UInt8) : DataLine (musicEnc c1 c2 c3 c4) := by
  refine ⟨_, rfl, ?_⟩
  simp only [List.forall_mem_append]
  exact ⟨⟨fun x hx => by simp [toHex_isHexChar _ x hx], by decide⟩, fun x hx => by simp [toHex_isHexChar _ x hx]⟩

theorem digit_mod {d : Nat} (h : d < 10) : (48 + d) % 256 = 48 + d := Nat.mod_eq_of_lt (by omega)

theorem natToDec_spec (n : Nat) : natToDec n ≠ [] ∧ (∀ x ∈ natToDec n, 48 ≤ x.toNat ∧ x.toNat ≤ 57) ∧
    (asciiU (natToDec n)).foldl (fun acc c => acc * 10 + (c - 48)) 0 = n := by
  fun_induction natToDec n with
  | case1 n h => simp [asciiU, digit_mod h]; omega
  | case2 n _ ih =>
    have d := digit_mod (Nat.mod_lt n (by decide : 0 < 10))
    obtain ⟨_, h2, h3⟩ := ih
    refine ⟨by simp, List.forall_mem_append.mpr ⟨h2, by simp [d]; omega⟩, ?_⟩
    simp only [asciiU, List.map_append, List.foldl_append] at h3 ⊢
    rw [h3]; simp [d]; omega

def verPrefix : Bytes := [118, 101, 114, 115, 105, 111, 110, 32]
def versionLine (v : Nat) : Bytes := verPrefix ++ natToDec v ++ [10]

theorem str_version : str "version " = asciiU verPrefix := by decide +kernel

theorem versionLine_text (v : Nat) : TextLine (versionLine v) := by
  refine ⟨_, rfl, List.forall_mem_append.mpr ⟨by decide, fun x hx => ?_⟩⟩
  have := (natToDec_spec v).2.1 x hx
  rw [printable_iff]; omega

/-- the line as the writer spells it and as the reader matches it -/
theorem versionLine_toU (v : Nat) :
    toUnicode C15.tbl (versionLine v) = str "version " ++ (asciiU (natToDec v) ++ [10]) := by
  rw [(versionLine_text v).toU, str_version]; simp [versionLine, asciiU]

theorem versionOf_versionLine (v : Nat) : versionOf (toUnicode C15.tbl (versionLine v)) = some v := by
  obtain ⟨h1, h2, h3⟩ := natToDec_spec v
  have htw : (asciiU (natToDec v) ++ [10]).takeWhile (fun c => decide (48 ≤ c) && decide (c ≤ 57))
      = asciiU (natToDec v) := by
    rw [List.takeWhile_append_of_pos (by simpa [asciiU] using h2)]; simp
  have h8 : (asciiU verPrefix).length = 8 := rfl
  rw [versionLine_toU, versionOf, str_version, List.take_left' h8, List.drop_left' h8, if_pos rfl]
  simp only [htw, List.drop_left]
  rw [if_pos ⟨by simpa [asciiU] using h1, rfl⟩]
  exact congrArg some h3

-- the title is 42 bytes, the last of them the LF
theorem header_text : TextLine Gen.headerTitle :=
  ⟨Gen.headerTitle.take 41, by decide +kernel, by decide +kernel⟩

/-- the header line `__name__` -/
def hdr (name : Bytes) : Bytes := [95, 95] ++ name ++ [95, 95, 10]

/-- what `\w+` accepts -/
def wordName (a : Bytes) : Prop := a ≠ [] ∧ ∀ x ∈ a, isWordChar x.toNat = true

theorem word_char {x : UInt8} (h : isWordChar x.toNat = true) : printable x = true := by
  rw [printable_iff]
  simp only [isWordChar, Bool.or_eq_true, Bool.and_eq_true, decide_eq_true_eq, beq_iff_eq] at h
  omega

theorem hdr_text {name : Bytes} (h : wordName name) : TextLine (hdr name) := by
  refine ⟨[95, 95] ++ name ++ [95, 95], by simp [hdr], ?_⟩
  simp only [List.forall_mem_append]
  exact ⟨⟨by decide, fun x hx => word_char (h.2 x hx)⟩, by decide⟩

theorem sectionName_hdr {name : Bytes} (h : wordName name) :
    sectionName (toUnicode C15.tbl (hdr name)) = some (asciiU name) := by
  have e : asciiU (hdr name) = [95, 95] ++ asciiU name ++ [95, 95, 10] := by simp [hdr, asciiU]
  have hlen : ([95, 95] ++ asciiU name ++ [95, 95, 10]).length = name.length + 5 := by simp [asciiU]
  have := List.length_pos_iff.mpr h.1
  rw [(hdr_text h).toU, e, sectionName, hlen,
    if_pos ⟨by omega, rfl, List.drop_left' (by simp [asciiU])⟩]
  simpa [asciiU, List.all_map] using h.2

abbrev nLua : Bytes := [108, 117, 97]
abbrev nGfx : Bytes := [103, 102, 120]
abbrev nLabel : Bytes := [108, 97, 98, 101, 108]
abbrev nGff : Bytes := [103, 102, 102]
abbrev nMap : Bytes := [109, 97, 112]
abbrev nSfx : Bytes := [115, 102, 120]
abbrev nMusic : Bytes := [109, 117, 115, 105, 99]

/-- the names as the reader compares them -/
theorem str_names : str "lua" = asciiU nLua ∧ str "gfx" = asciiU nGfx ∧ str "label" = asciiU nLabel ∧
    str "gff" = asciiU nGff ∧ str "map" = asciiU nMap ∧ str "sfx" = asciiU nSfx ∧ str "music" = asciiU nMusic := by
  decide

/-- the headers as the writer spells them -/
theorem str_headers : str "__lua__\n" = asciiU (hdr nLua) ∧ str "__gfx__\n" = asciiU (hdr nGfx) ∧
    str "__label__\n" = asciiU (hdr nLabel) ∧ str "__gff__\n" = asciiU (hdr nGff) ∧
    str "__map__\n" = asciiU (hdr nMap) ∧ str "__sfx__\n" = asciiU (hdr nSfx) ∧
    str "__music__\n" = asciiU (hdr nMusic) := by
  decide

/-- a section as written: its name and its data lines -/
abbrev Sec := Bytes × List Bytes

def secLines (ss : List Sec) : List Bytes := ss.flatMap (fun s => hdr s.1 :: s.2)
def secResult (ss : List Sec) : Secs := ss.map (fun s => (asciiU s.1, s.2.map (fun b => b.map (·.toNat))))

theorem secLines_cons (s : Sec) (ss : List Sec) : secLines (s :: ss) = hdr s.1 :: (s.2 ++ secLines ss) := rfl

theorem forall_mem_secLines {P : Bytes → Prop} {ss : List Sec} :
    (∀ b ∈ secLines ss, P b) ↔ ∀ s ∈ ss, P (hdr s.1) ∧ ∀ b ∈ s.2, P b := by
  simp only [secLines, List.forall_mem_flatMap, List.forall_mem_cons]

theorem secsAppend_last (pre : Secs) (name : List Nat) (ls : List (List Nat)) (p : List Nat)
    (h : ∀ e ∈ pre, e.1 ≠ name) :
    secsAppend (pre ++ [(name, ls)]) name p = pre ++ [(name, ls ++ [p])] := by
  have keep : ∀ e ∈ pre, (if e.1 == name then (e.1, e.2 ++ [p]) else e) = e := fun e he =>
    if_neg (by simpa using h e he)
  rw [secsAppend, List.map_append, List.map_congr_left keep]
  simp

theorem secsReset_new (pre : Secs) (name : List Nat) (h : ∀ e ∈ pre, e.1 ≠ name) :
    secsReset pre name = pre ++ [(name, [])] := by
  rw [secsReset, if_neg]
  rw [Bool.not_eq_true, List.any_eq_false]
  exact fun e he => by simpa using h e he

theorem scan_data (name : List Nat) (pre : Secs) (h : ∀ e ∈ pre, e.1 ≠ name) (rest : List (List Nat))
    (bl : List Bytes) (ls : List (List Nat)) (hns : ∀ b ∈ bl, sectionName (toUnicode C15.tbl b) = none) :
    scanLines C15.tbl (bl.map (toUnicode C15.tbl) ++ rest) (some name) (pre ++ [(name, ls)])
      = scanLines C15.tbl rest (some name) (pre ++ [(name, ls ++ bl.map (fun b => b.map (·.toNat)))]) := by
  induction bl generalizing ls with
  | nil => simp
  | cons b bl ih =>
    obtain ⟨h1, hns⟩ := List.forall_mem_cons.mp hns
    have h2 : toP8 C15.tbl (toUnicode C15.tbl b) = some (b.map (·.toNat)) := Pico.C15.roundtrip b
    simp only [List.map_cons, List.cons_append, scanLines, h1, h2]
    rw [secsAppend_last pre name ls _ h, ih _ hns]
    simp

theorem scan_secs (ss : List Sec) (hh : ∀ s ∈ ss, wordName s.1)
    (hd : ∀ s ∈ ss, ∀ b ∈ s.2, sectionName (toUnicode C15.tbl b) = none)
    (cur : Option (List Nat)) (pre : Secs) (hnd : (pre.map (·.1) ++ ss.map (asciiU ·.1)).Nodup) :
    scanLines C15.tbl ((secLines ss).map (toUnicode C15.tbl)) cur pre = .ok (pre ++ secResult ss) := by
  induction ss generalizing cur pre with
  | nil => simp [secLines, secResult, scanLines]
  | cons s ss ih =>
    obtain ⟨hs, hh⟩ := List.forall_mem_cons.mp hh
    obtain ⟨hb, hd⟩ := List.forall_mem_cons.mp hd
    have hpre : ∀ e ∈ pre, e.1 ≠ asciiU s.1 := fun e he =>
      (List.nodup_append.mp hnd).2.2 e.1 (List.mem_map_of_mem he) _ (by simp)
    rw [secLines_cons]
    simp only [List.map_cons, List.map_append, scanLines, sectionName_hdr hs]
    rw [secsReset_new pre _ hpre, scan_data _ pre hpre _ _ _ hb, ih hh hd _ _ (by simpa using hnd)]
    simp [secResult]

def normCode (code : Bytes) : Bytes := code ++ (if code.getLast? = some 10 then [] else [10])

theorem normCode_ends (code : Bytes) : ∃ ys, normCode code = ys ++ [10] := by
  unfold normCode
  split
  · simpa using List.getLast?_eq_some_iff.mp ‹_›
  · exact ⟨code, rfl⟩

theorem luaText_eq (code : Bytes) : luaText C15.tbl code = toUnicode C15.tbl (normCode code) := by
  unfold luaText normCode
  split
  · simp
  · rw [toUnicode_append, toUnicode_lf]

theorem split_toU (ls : List Bytes) (h : ∀ b ∈ ls, IsLine isLF8 b) :
    splitLinesU (ls.map (toUnicode C15.tbl)).flatten = ls.map (toUnicode C15.tbl) := by
  apply splitLinesAux_lines isLFU
  intro l hl
  obtain ⟨b, hb, rfl⟩ := List.mem_map.mp hl
  exact toUnicode_line b (h b hb)

theorem lua_lines (code : Bytes) : ∃ bl : List Bytes, (∀ b ∈ bl, IsLine isLF8 b) ∧ normCode code = bl.flatten ∧
    splitLinesU (luaText C15.tbl code) = bl.map (toUnicode C15.tbl) := by
  obtain ⟨ys, e⟩ := normCode_ends code
  obtain ⟨bl, h1, h2⟩ := exists_lines isLF8 10 rfl ys
  rw [← e] at h2
  exact ⟨bl, h1, h2, by rw [luaText_eq, h2, toUnicode_flatten]; exact split_toU bl h1⟩

/-! ### reading a file made of a header and sections -/

theorem read_eq (v : Nat) (ss : List Sec) (hname : ∀ s ∈ ss, wordName s.1)
    (hdat : ∀ s ∈ ss, ∀ b ∈ s.2, IsLine isLF8 b ∧ sectionName (toUnicode C15.tbl b) = none)
    (hnd : (ss.map (asciiU ·.1)).Nodup) :
    readP8 C15.tbl (([Gen.headerTitle, versionLine v] ++ secLines ss).map (toUnicode C15.tbl)).flatten
      = applySecs (secResult ss) (emptyCart v) := by
  have hlines : ∀ b ∈ [Gen.headerTitle, versionLine v] ++ secLines ss, IsLine isLF8 b := by
    simp only [List.forall_mem_append, List.forall_mem_cons, forall_mem_secLines]
    exact ⟨⟨header_text.isLine, (versionLine_text v).isLine, nofun⟩,
      fun s hs => ⟨(hdr_text (hname s hs)).isLine, fun b hb => (hdat s hs b hb).1⟩⟩
  have hscan := scan_secs ss hname (fun s hs b hb => (hdat s hs b hb).2) none [] hnd
  rw [readP8, split_toU _ hlines]
  simp only [List.cons_append, List.nil_append, List.map_cons, header_text.toU, versionOf_versionLine, hscan]
  exact if_neg fun h => h rfl

/-! ### the written file -/

/-- the gfx section and, if the cart has a label, the label section; the blank line the writer puts after
them belongs to whichever comes last -/
def gfxSecs (gfx : Bytes) : Option Bytes → List Sec
  | none => [(nGfx, gfxToLines gfx ++ [[LF]])]
  | some l => [(nGfx, gfxToLines gfx), (nLabel, gfxToLines l ++ [[LF]])]

/-- the sections after `__lua__` -/
def dataSecs (c : Cart) (sfxL musL : List Bytes) : List Sec :=
  gfxSecs c.gfx c.label ++
  [(nGff, hexToLines Gen.hexLineLenGff c.gff), (nMap, hexToLines Gen.hexLineLenMap c.map),
   (nSfx, sfxL), (nMusic, musL ++ [[LF]])]

def cartSecs (c : Cart) (bl sfxL musL : List Bytes) : List Sec := (nLua, bl) :: dataSecs c sfxL musL

theorem cartSecs_names (c : Cart) (bl sfxL musL : List Bytes) :
    (∀ s ∈ cartSecs c bl sfxL musL, wordName s.1) ∧ ((cartSecs c bl sfxL musL).map (asciiU ·.1)).Nodup := by
  cases h : c.label <;> simp only [cartSecs, dataSecs, gfxSecs, h, List.cons_append, List.nil_append,
    List.forall_mem_cons, List.map_cons, List.map_nil, wordName] <;> decide

theorem dataSecs_data (c : Cart) (sfxL musL : List Bytes) (hs : ∀ b ∈ sfxL, DataLine b)
    (hm : ∀ b ∈ musL, DataLine b) : ∀ s ∈ dataSecs c sfxL musL, ∀ b ∈ s.2, DataLine b := by
  have blank : DataLine [LF] := ⟨[], rfl, nofun⟩
  have gfx := fun m => hexRows_data (chunks Gen.hexLineLenGfx m) (·.map swapNibbles)
  have hex := fun n m => hexRows_data (chunks n m) id
  cases h : c.label <;>
    simp only [dataSecs, gfxSecs, h, List.forall_mem_append, List.forall_mem_cons, List.not_mem_nil, false_imp_iff,
      implies_true, and_true]
  · exact ⟨⟨gfx _, blank⟩, hex _ _, hex _ _, hs, hm, blank⟩
  · exact ⟨⟨gfx _, gfx _, blank⟩, hex _ _, hex _ _, hs, hm, blank⟩

theorem write_eq (c : Cart) (bl sfxL musL : List Bytes)
    (hs : sfxToLines c.sfx = some sfxL) (hm : musicToLines c.music = some musL)
    (hd : ∀ s ∈ dataSecs c sfxL musL, ∀ b ∈ s.2, DataLine b) (hbl : normCode c.code = bl.flatten) :
    writeP8 C15.tbl c = some (([Gen.headerTitle, versionLine c.version] ++ secLines (cartSecs c bl sfxL musL)).map
      (toUnicode C15.tbl)).flatten := by
  have hdata : ∀ b ∈ secLines (dataSecs c sfxL musL), TextLine b := forall_mem_secLines.mpr fun s hs' =>
    ⟨hdr_text ((cartSecs_names c bl sfxL musL).1 s (List.mem_cons_of_mem _ hs')), fun b hb => (hd s hs' b hb).text⟩
  have hlua : TextLine (hdr nLua) := hdr_text ⟨by decide, by decide⟩
  unfold writeP8
  simp only [hs, hm, bind, Option.bind, pure]
  apply congrArg some
  rw [← toUnicode_flatten, cartSecs, secLines_cons]
  simp only [List.cons_append, List.nil_append, List.flatten_cons, List.flatten_append, toUnicode_append,
    header_text.toU, versionLine_toU, hlua.toU, ← luaText_eq, ← hbl, toUnicode_textLines _ hdata]
  cases h : c.label <;>
    simp [dataSecs, gfxSecs, secLines, h, asciiU, str_headers, LF]

theorem natsToBytes_map (b : Bytes) : natsToBytes (b.map (·.toNat)) = b := by
  simp only [natsToBytes, List.map_map]
  exact List.map_id'' (fun x => by simp) b

theorem apply_cartSecs (c : Cart) (bl sfxL musL : List Bytes) (m : Bytes)
    (hg : gfxFromLines (gfxToLines c.gfx) = .ok c.gfx)
    (hl : ∀ l, c.label = some l → gfxFromLines (gfxToLines l) = .ok l)
    (hs : sfxFromLines sfxL = .ok c.sfx) (hm : musicFromLines musL = .ok m) :
    applySecs (secResult (cartSecs c bl sfxL musL)) (emptyCart c.version) =
      .ok { c with code := bl.flatten, music := m } := by
  cases h : c.label <;>
    simp [cartSecs, dataSecs, gfxSecs, h, secResult, applySecs, str_names, asciiU, Function.comp_def, natsToBytes_map,
      show natsToBytes [LF.toNat] = [LF] from rfl, gfxFromLines_blank, musicFromLines_blank, hg, hl,
      hexFromLines_hexToLines Gen.hexLineLenGff (by decide), hexFromLines_hexToLines Gen.hexLineLenMap (by decide),
      hs, hm, bind, Except.bind, emptyCart]

theorem roundtrip_core (c : Cart) (hgfx : c.gfx.length = 0x2000) (hsfx : c.sfx.length = 0x1100)
    (hmus : c.music.length % 4 = 0) (hlabel : ∀ l, c.label = some l → l.length = 0x2000)
    (hnosec : ∀ line ∈ splitLinesU (luaText C15.tbl c.code), sectionName line = none) :
    ∃ f, writeP8 C15.tbl c = some f ∧ readP8 C15.tbl f = .ok (normCart c) := by
  obtain ⟨musL, hm1, hm2, hm3⟩ := musicFromLines_musicToLines c.music hmus
  have hdata := dataSecs_data c _ musL (sfxLines_data c.sfx) fun b hb => by
    obtain ⟨c1, c2, c3, c4, rfl⟩ := hm3 b hb
    exact musicEnc_data c1 c2 c3 c4
  obtain ⟨bl, hbl1, hbl2, hbl3⟩ := lua_lines c.code
  rw [hbl3, List.forall_mem_map] at hnosec
  obtain ⟨hnames, hnd⟩ := cartSecs_names c bl _ musL
  refine ⟨_, write_eq c bl _ musL (sfxToLines_eq c.sfx hsfx) hm1 hdata hbl2, ?_⟩
  rw [read_eq _ _ hnames ?_ hnd, apply_cartSecs c bl _ musL _ (gfxFromLines_gfxToLines _ hgfx)
    (fun l h => gfxFromLines_gfxToLines l (hlabel l h)) (sfxFromLines_enc c.sfx hsfx) hm2, ← hbl2]
  · rfl
  · rintro s hs b hb
    rcases List.mem_cons.mp hs with rfl | hs
    · exact ⟨hbl1 b hb, hnosec b hb⟩
    · exact ⟨(hdata s hs b hb).text.isLine, (hdata s hs b hb).nosec⟩

/-! ### normalisation is idempotent on what gets written -/

theorem luaText_norm (code : Bytes) :
    luaText C15.tbl (code ++ (if code.getLast? = some 10 then [] else [10])) = luaText C15.tbl code := by
  obtain ⟨ys, e⟩ := normCode_ends code
  have : normCode (normCode code) = normCode code := by rw [e]; simp [normCode]
  rw [luaText_eq, luaText_eq code]
  exact congrArg (toUnicode C15.tbl) this

theorem write_norm (c : Cart) : writeP8 C15.tbl (normCart c) = writeP8 C15.tbl c := by
  unfold writeP8 normCart
  simp only [musicToLines_norm, luaText_norm]

end Pico.C03L
