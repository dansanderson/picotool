import PicoVerif.Model.CartMem
import PicoVerif.Lemmas.Basic
/-! C18: under the memory map `writeAll` is five `writeRegion`s, one per region; writes to adjacent regions glue
(`writeRegion_append`), so together they are one `writeRegion` on the flat memory (`writeAll_flat_eq`). -/

namespace Pico.CartMem

theorem writeRegion_length (startA endA : Nat) (sec data : Bytes) (a : Nat)
    (hlen : sec.length = endA - startA) :
    (writeRegion startA endA sec data a).length = sec.length := by
  unfold writeRegion
  simp only []
  split
  · rfl
  · exact overlay_length sec data startA a _ _ (Nat.le_max_right ..) (Nat.le_max_left ..) (by omega)
      (Nat.le_trans (Nat.min_le_right ..) (by omega)) (Nat.min_le_left ..)

theorem writeRegion_getElem? (startA endA : Nat) (sec data : Bytes) (a : Nat)
    (hlen : sec.length = endA - startA) (j : Nat) :
    (writeRegion startA endA sec data a)[j]? =
      if j < sec.length ∧ a ≤ startA + j ∧ startA + j < a + data.length
      then data[startA + j - a]? else sec[j]? := by
  unfold writeRegion
  simp only []
  split
  · rw [if_neg (by omega)]
  · rw [overlay_getElem? sec data startA a _ _ j (Nat.le_max_right ..) (Nat.le_max_left ..) (by omega)
      (Nat.le_trans (Nat.min_le_right ..) (by omega)) (Nat.min_le_left ..)]
    exact ite_congr (propext (by rw [Nat.max_le, Nat.lt_min]; omega)) (fun _ => rfl) (fun _ => rfl)

theorem writeRegion_append (s e f : Nat) (sec sec' data : Bytes) (a : Nat)
    (hlen : s + sec.length = e) (hlen' : e + sec'.length = f) :
    writeRegion s e sec data a ++ writeRegion e f sec' data a = writeRegion s f (sec ++ sec') data a := by
  apply List.ext_getElem?
  intro j
  rw [List.getElem?_append, writeRegion_length s e sec data a (by omega),
    writeRegion_getElem? s e sec data a (by omega), writeRegion_getElem? e f sec' data a (by omega),
    writeRegion_getElem? s f _ data a (by rw [List.length_append]; omega), List.getElem?_append,
    List.length_append]
  by_cases hj : j < sec.length
  · simp only [hj, if_true, true_and, show j < sec.length + sec'.length by omega]
  · simp only [hj, if_false, show e + (j - sec.length) = s + j by omega,
      show (j - sec.length < sec'.length) = (j < sec.length + sec'.length) by rw [eq_iff_iff]; omega]

theorem writeRegion_whole (sec data : Bytes) (a : Nat) (hfit : a + data.length ≤ sec.length) :
    writeRegion 0 sec.length sec data a = sec.take a ++ data ++ sec.drop (a + data.length) := by
  unfold writeRegion
  simp only [Nat.max_zero, Nat.min_eq_left hfit, Nat.sub_zero, Nat.sub_self, Nat.add_sub_cancel_left]
  split
  · obtain rfl : data = [] := List.eq_nil_of_length_eq_zero (by omega)
    simp
  · rw [pySliceAssign_eq _ _ _ _ (by omega) hfit, pySlice, List.take_length, List.drop_zero]

theorem writeAll_memmap (m : Mem) (d : Bytes) (a : Nat) :
    writeAll Gen.memmap m d a =
      ⟨writeRegion 0 0x2000 m.gfx d a, writeRegion 0x2000 0x3000 m.map d a,
       writeRegion 0x3000 0x3100 m.gff d a, writeRegion 0x3100 0x3200 m.music d a,
       writeRegion 0x3200 0x4300 m.sfx d a⟩ := by
  simp [writeAll, Gen.memmap, Mem.set, Mem.get]

theorem writeCartData_ok_iff (m : Mem) (d : Bytes) (a : Nat) (m' : Mem) :
    writeCartData m d a = .ok m' ↔ a + d.length ≤ 0x4300 ∧ m' = writeAll Gen.memmap m d a := by
  rw [writeCartData, show Gen.cartEnd = 0x4300 from rfl]
  split
  · exact ⟨nofun, fun h => by omega⟩
  · exact ⟨fun h => ⟨by omega, (Except.ok.inj h).symm⟩, fun h => h.2 ▸ rfl⟩

theorem writeAll_WF (m : Mem) (d : Bytes) (a : Nat) (h : m.WF) : (writeAll Gen.memmap m d a).WF := by
  obtain ⟨h1, h2, h3, h4, h5⟩ := h
  rw [writeAll_memmap]
  dsimp only [Mem.WF]  -- the field projections, which `exact` is slow to unify away
  exact ⟨(writeRegion_length 0 0x2000 _ d a h1).trans h1, (writeRegion_length 0x2000 0x3000 _ d a h2).trans h2,
    (writeRegion_length 0x3000 0x3100 _ d a h3).trans h3, (writeRegion_length 0x3100 0x3200 _ d a h4).trans h4,
    (writeRegion_length 0x3200 0x4300 _ d a h5).trans h5⟩

theorem flat_length (m : Mem) (h : m.WF) : m.flat.length = 0x4300 := by
  obtain ⟨h1, h2, h3, h4, h5⟩ := h
  simp only [Mem.flat, List.length_append]; omega

theorem writeAll_flat_eq (m : Mem) (d : Bytes) (a : Nat) (h : m.WF) :
    (writeAll Gen.memmap m d a).flat = writeRegion 0 0x4300 m.flat d a := by
  obtain ⟨h1, h2, h3, h4, h5⟩ := h
  rw [writeAll_memmap]
  simp only [Mem.flat]
  rw [writeRegion_append 0 0x2000 0x3000 _ _ d a (by omega) (by omega),
    writeRegion_append 0 0x3000 0x3100 _ _ d a (by rw [List.length_append]; omega) (by omega),
    writeRegion_append 0 0x3100 0x3200 _ _ d a (by simp only [List.length_append]; omega) (by omega),
    writeRegion_append 0 0x3200 0x4300 _ _ d a (by simp only [List.length_append]; omega) (by omega)]

end Pico.CartMem
